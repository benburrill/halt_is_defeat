import HidVerif.Compiler.Core
import HidVerif.Compiler.PySupport
import HidVerif.Compiler.Templates
import HidVerif.Gen.Builtins
import HidVerif.Gen.Funcs
import HidVerif.Gen.Grammar
import HidVerif.Gen.LexTables
import HidVerif.Gen.Stdlib
import HidVerif.Gen.Tables
import HidVerif.Hid.Ast
import HidVerif.Hid.ExitModes
import HidVerif.Hid.Fold
import HidVerif.Hid.Lexer
import HidVerif.Hid.Machine
import HidVerif.Hid.ParseRender
import HidVerif.Hid.Parser
import HidVerif.Hid.Typecheck
import HidVerif.Hid.TypecheckStmt
import HidVerif.Proofs.Branch
import HidVerif.Proofs.CoreCond
import HidVerif.Proofs.CoreExec
import HidVerif.Proofs.CoreExecDefs
import HidVerif.Proofs.CoreStop
import HidVerif.Proofs.CoreCall
import HidVerif.Proofs.CoreExpr
import HidVerif.Proofs.CoreFrame
import HidVerif.Proofs.CoreLen
import HidVerif.Proofs.CoreMain
import HidVerif.Proofs.CoreMem
import HidVerif.Proofs.CoreSem
import HidVerif.Proofs.CoreStmt
import HidVerif.Proofs.DigitLoop
import HidVerif.Proofs.DigitsBound
import HidVerif.Proofs.Driver
import HidVerif.Proofs.Escape
import HidVerif.Proofs.ExitModes
import HidVerif.Proofs.Fold
import HidVerif.Proofs.FoldMain
import HidVerif.Proofs.Frames
import HidVerif.Proofs.Guards
import HidVerif.Proofs.LexInt
import HidVerif.Proofs.PackBools
import HidVerif.Proofs.LexPieces
import HidVerif.Proofs.LexLayout
import HidVerif.Proofs.LexNumber
import HidVerif.Proofs.LexChars
import HidVerif.Proofs.LexStrings
import HidVerif.Proofs.LexReaders
import HidVerif.Proofs.LexWords
import HidVerif.Proofs.LexSymbols
import HidVerif.Proofs.Lib
import HidVerif.Proofs.Mem
import HidVerif.Proofs.ParserBasics
import HidVerif.Proofs.ModeBits
import HidVerif.Proofs.ParseRoundTrip
import HidVerif.Proofs.ParseSound
import HidVerif.Proofs.ParseFuel
import HidVerif.Hid.TypeRules
import HidVerif.Proofs.TCMonad
import HidVerif.Proofs.TypeRulesLemmas
import HidVerif.Proofs.TypeSound
import HidVerif.Proofs.TypeSoundStmt
import HidVerif.Proofs.TypeSoundProg
import HidVerif.Proofs.NoInternal
import HidVerif.Proofs.NoInternalModes
import HidVerif.Proofs.ExitLink
import HidVerif.Proofs.PrintLoop
import HidVerif.Proofs.Prophetic
import HidVerif.Proofs.SourceLaws
import HidVerif.Proofs.Step
import HidVerif.Proofs.Tables
import HidVerif.Proofs.Templates
import HidVerif.Proofs.Terminal
import HidVerif.Proofs.WriteArrays
import HidVerif.Proofs.WriteIntFull
import HidVerif.Proofs.WriteIntSpec
import HidVerif.Proofs.WriteLib
import HidVerif.Prophetic
import HidVerif.Props.C01
import HidVerif.Props.C02
import HidVerif.Props.C03
import HidVerif.Props.C04
import HidVerif.Props.C05
import HidVerif.Props.C06
import HidVerif.Props.C07
import HidVerif.Props.C08
import HidVerif.Props.C09
import HidVerif.Props.C10
import HidVerif.Props.C11
import HidVerif.Props.C12
import HidVerif.Props.C13
import HidVerif.Props.C14
import HidVerif.Props.C15
import HidVerif.Props.C16
import HidVerif.Props.C17
import HidVerif.Props.C18
import HidVerif.Sphinx.Asm
import HidVerif.Sphinx.Isa
import HidVerif.Sphinx.Monitor
import HidVerif.Sphinx.VM
