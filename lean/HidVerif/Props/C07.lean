import HidVerif.Hid.TypecheckStmt
import HidVerif.Proofs.TypeSoundProg
/-!
# C07 — the typechecker accepts exactly the well-typed programs

Theorems about `Hid/Typecheck*.lean`, the model of the `evaluate` methods (tied to the real
typechecker by the `tc` suite: identical typed trees on accepted programs, identical error
class on rejected ones, on generated programs, type mutations and the repository's own test
snippets).  Proved: the coercion lattice and the explicit-cast table equal the documented ones
on all scalar and array types; literal shrinkability and its loss; overload resolution
(exact match first, else first coercible overload in declaration order); rejection lemmas; and type soundness: the typed
tree of every accepted program satisfies the typing rules of `Hid/TypeRules.lean` (`accepted_programs_are_well_typed`).
-/
namespace HidVerif.Props.C07
open HidVerif.Hid HidVerif.Hid.TC HidVerif.Hid.Lex

/-- all types of the language: five scalar types and arrays of them, const or not -/
def scalars : List Ty := [.int, .byte, .bool, .string, .empty]
def allTys : List Ty := scalars ++ scalars.map (fun t => .arr t false) ++ scalars.map (fun t => .arr t true)

/-- README: "byte coercible to int", "string coercible to const byte[]", "a non-const array may
be coerced into a const array, but not vice-versa" — and nothing else -/
def docCoercible (t new : Ty) : Bool :=
  t == new || (t == .byte && new == .int) || (t == .string && new == .arr .byte true) ||
  (match t, new with | .arr a false, .arr b true => a == b | _, _ => false)

/-- a non-literal expression of static type `t` (e.g. a variable) is implicitly coercible to
`new` exactly according to the documented lattice -/
theorem coercible_table : ∀ t ∈ allTys, ∀ new ∈ allTys,
    coercible (.var [] t false) new = docCoercible t new := by decide +kernel

/-- README "Allowed explicit type casts" -/
def docCastable (t new : Ty) : Bool :=
  t == new ||
  ((t == .byte || t == .bool) && new == .int) ||
  ((t == .int || t == .bool) && new == .byte) ||
  ((t == .int || t == .byte || t == .string || isArr t) && new == .bool) ||
  (t == .string && new == .arr .byte true) ||
  (match t, new with | .arr a false, .arr b true => a == b | _, _ => false)

theorem cast_table : ∀ t ∈ allTys, ∀ new ∈ allTys,
    (match TC.cast (.var [] t false) new with | .ok _ => true | .error _ => false) = docCastable t new := by decide +kernel

/-- numeric literals are `int` but coercible to `byte` … -/
theorem literal_shrinkable (v : Int) : coercible (.intv v false true) .byte = true := by simp [coercible]
/-- … lose that when substituted for a const variable (`.at`) … -/
theorem substituted_literal_not_shrinkable (v : Int) : coercible (atSpan (.intv v false true)) .byte = false := by
  simp [atSpan, coercible, baseCoercible, typeOf]
/-- … and after an explicit cast to `int` -/
theorem explicit_int_cast_not_shrinkable (v : Int) (sh : Bool) :
    TC.cast (.intv v false sh) .int = .ok (.intv v false false) ∧ coercible (.intv v false false) .byte = false := by
  simp [TC.cast, coercible, baseCoercible, typeOf, pure, Except.pure]
/-- arithmetic is coercible to byte iff it was built from byte-coercible operands -/
theorem arith_shrinkable (op : BinOp) (l r : TE) (sh : Bool) : coercible (.arith op l r sh) .byte = sh := by
  simp [coercible, baseCoercible]
/-- a non-literal int is never implicitly narrowed -/
theorem narrowing_rejected (n : List CP) (c : Bool) : (coerce (.var n .int c) .byte).toOption = none := by
  simp [coerce, coercible, baseCoercible, typeOf, Except.toOption, throw, throwThe, MonadExceptOf.throw]
/-- a const array never becomes mutable -/
theorem const_array_to_mutable_rejected (n : List CP) (el : Ty) :
    (coerce (.var n (.arr el true) true) (.arr el false)).toOption = none := by
  simp [coerce, coercible, baseCoercible, typeOf, Except.toOption, throw, throwThe, MonadExceptOf.throw]

/-! ### overload resolution -/

theorem resolve_exact (cands : List FuncSig) (args : List TE) (f : FuncSig)
    (h : cands.find? (fun f => f.ptys == args.map typeOf) = some f) : resolveCall cands args = some f := by
  simp [resolveCall, h]

theorem resolve_fallback (cands : List FuncSig) (args : List TE)
    (h : cands.find? (fun f => f.ptys == args.map typeOf) = none) :
    resolveCall cands args = cands.find? (fun f => f.ptys.length == args.length &&
      (List.zip args f.ptys).all (fun (a, t) => coercible a t)) := by
  simp [resolveCall, h]

/-- the chosen overload is a declared one, and if it is not an exact match then no overload
matches exactly, every argument is coercible to it, and no earlier overload would do -/
theorem resolve_spec (cands : List FuncSig) (args : List TE) (f : FuncSig) (h : resolveCall cands args = some f) :
    f ∈ cands ∧ (f.ptys = args.map typeOf ∨
      ((∀ g ∈ cands, g.ptys ≠ args.map typeOf) ∧ f.ptys.length = args.length ∧
       (List.zip args f.ptys).all (fun (a, t) => coercible a t) = true)) := by
  unfold resolveCall at h
  cases he : cands.find? (fun f => f.ptys == args.map typeOf) with
  | some g =>
    simp [he] at h; subst h
    have := List.find?_some he
    exact ⟨List.mem_of_find?_eq_some he, Or.inl (by simpa using this)⟩
  | none =>
    simp only [he] at h
    have hm := List.mem_of_find?_eq_some h
    have hp := List.find?_some h
    refine ⟨hm, Or.inr ⟨?_, ?_, ?_⟩⟩
    · intro g hg
      have := List.find?_eq_none.1 he g hg
      simpa using this
    · simp at hp; exact hp.1
    · simp at hp; simpa using hp.2

/-- assignment to a const variable or a const-array / string element is rejected (the target's
const attribute, as `Assignment.evaluate` consults it) -/
theorem const_targets : isAssignableTE (.var [] .int true) = some true
    ∧ isAssignableTE (.index (.var [] (.arr .int true) true) (.intv 0 false true)) = some true
    ∧ isAssignableTE (.index (.var [] .string false) (.intv 0 false true)) = some true
    ∧ isAssignableTE (.index (.var [] (.arr .int false) true) (.intv 0 false true)) = some false
    ∧ isAssignableTE (.intv 5 false true) = none := by
  simp [isAssignableTE, typeOf]

/-! ### type soundness: every accepted program obeys the rules (Proofs/TypeSound*.lean)

`wtProg` (Hid/TypeRules.lean) is the conjunction of the documented rules, node by node: a call node carries arguments
of *exactly* the parameter types of an overload declared with that name and flavour, and has its return type; operands
of arithmetic and comparisons are `int`, of `and`/`or`/`not` and every `if`/`while` condition `bool`; the two sides of an
assignment have the same type and the target is a non-const variable or an element of a non-const array (never a
string element); a declaration's initialiser has exactly the declared type; `return` carries a value exactly when the
function is not `empty`, of exactly the function's type; an array literal has a scalar, non-`empty` element type that
every element has (after an explicit or implicit cast) or can be coerced to; cast nodes connect only the pairs of types
of the cast table; `??` has two operands of the same `byte`/`int`/`bool` type; no type is an array of arrays.
Rejection is the contrapositive: a source whose only possible typed tree breaks one of these is not accepted. -/

/-- for every source text, whatever the parser and then the typechecker accept has a well-typed tree -/
theorem accepted_programs_are_well_typed (lint : Bool) (src : List HidVerif.Hid.Lex.Line) (p : HidVerif.Hid.Parse.PProgram)
    (tp : TProgram) (hparse : HidVerif.Hid.Parse.parse src = .ok p) (htc : tcProgram lint p = .ok tp) : wtProg tp = true :=
  accepted_well_typed lint src p tp hparse htc

/-- the expression level, for any environment in order: the typed tree of an accepted expression is well typed -/
theorem accepted_expressions_are_well_typed (env : Env) (henv : EnvOK env) (e : HidVerif.Hid.Parse.PExpr) (te : TE)
    (hty : ptyE e = true) (h : tcExpr env e = .ok te) : wtE env.funcs te = true := tcExpr_wt env henv e te hty h

/-- an implicit or explicit cast that succeeds yields a tree of exactly the requested type -/
theorem cast_has_target_type (fs : List FuncSig) (e e' : TE) (new : Ty) (impl : Bool) (hw : wtE fs e = true)
    (hn : HidVerif.Hid.Parse.tgtOK new = true) (h : cast e new impl = .ok e') : typeOf e' = new :=
  (cast_ok fs e new impl e' hw hn h).2

/-- the rules are not vacuous: ill-typed trees are told apart -/
example : wtE [] (.arith .add (.boolv true) (.intv 1 false true) false) = false
    ∧ wtS [] .int (.assign (.var [] .int true) (.intv 1 false true)) = false
    ∧ wtS [] .int (.assign (.index (.var [] .string false) (.intv 0 false true)) (.intv 1 true true)) = false
    ∧ wtS [] .int (.assign (.var [] .byte false) (.var [] .int false)) = false
    ∧ wtS [] .empty (.ret (some (.intv 1 false true))) = false
    ∧ wtS [] .int (.ret none) = false
    ∧ wtE [] (.call [] .none [] [] .empty) = false
    ∧ wtE [] (.arrlit [.arrlit [] (.arr .int true) true] (.arr (.arr .int true) true) true) = false
    ∧ wtS [] .int (.assign (.var [] .byte false) (.intv 1 true true)) = true := by
  decide +kernel

/-- … and the theorem's hypotheses are met by concrete sources: these parse, typecheck and (as the theorem says) are
well typed; the third is rejected by the typechecker -/
example :
    let line (s : String) : List HidVerif.Hid.Lex.Line := [s.toList.map Char.toNat]
    let run (s : String) : Option Bool := match HidVerif.Hid.Parse.parse (line s) with
      | .ok p => (match tcProgram false p with | .ok tp => some (wtProg tp) | .error _ => none)
      | .error _ => none
    run "int f(byte b) { return b + 1; } empty @is_you() { int x = f(3); byte[] a = [1, 2, x is byte]; a[0] += 2; writeln(a.length); }" = some true ∧
    run "const int g = 5; empty @is_you() { bool b = g > 2 and not (g == 7); if (b) { write(\"x\"); } }" = some true ∧
    run "empty @is_you() { byte b = 1; int i = 300; b = i; }" = none := by
  refine ⟨by decide +kernel, by decide +kernel, by decide +kernel⟩

end HidVerif.Props.C07
