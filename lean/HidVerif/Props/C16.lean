import HidVerif.Proofs.ExitLink
import HidVerif.Proofs.ExitModes
import HidVerif.Proofs.Terminal
import HidVerif.Proofs.CoreMain
/-!
# C16 — control never runs off the end of a function

(a) and (c) are theorems about `Hid/ExitModes.lean` — the model of the exit-mode bookkeeping
of blocks.py, tied to it by the `exit` suite (the mode of every block of every accepted
function is recomputed and compared) — against an abstract control-flow semantics in which
every condition may go either way and every statement that evaluates an expression may be defeated.
(b) `accepted_function_never_falls_off` (from `accepted_never_falls_off`, Proofs/ExitLink.lean): the modes the *typechecker model* writes into its
tree are that analysis of the statements it kept, so for every source text every function of an accepted
program has a body that cannot complete normally.  (d), the program counter never reaches a
function entry by falling through, is validated by the VM monitor; for the verified core it follows from
`C01.core_semantic_preservation`, and the two source-level facts that rests on are stated in the last section.
-/
namespace HidVerif.Props.C16
open HidVerif HidVerif.Hid.Exit

/-- (a) a well-formed block whose exit modes lack `NONE` never completes normally -/
theorem analysis_sound (s : Skel) (hb : blockish s = true) (hw : wf s = true)
    (h : has (modes s) NONE = false) : ¬ Exits s .normal := no_none_no_fallthrough s hb hw h

/-- (c) statements the typechecker drops as unreachable (everything after a prefix whose mode
lacks `NONE`) can indeed not be reached by normal completion of that prefix -/
theorem dropped_is_unreachable (pre : List Skel) (hw : wfAll pre = true)
    (h : has (blockGo pre NONE false) NONE = false) : ¬ Exits (.block pre) .normal := unreachable_after pre hw h

/-- full invariant: normal completion shows as NONE, an escaping break as BREAK -/
theorem exits_reflected {s : Skel} {o : Out} (h : Exits s o) (hb : blockish s = true) (hw : wf s = true) :
    (o = .normal → has (modes s) NONE = true) ∧ (o = .brk → has (modes s) BREAK = true) :=
  (exits_sound h hw).1 hb

/-- the body of a function that was accepted without an appended `return` cannot fall through:
a constant-true loop without break, then anything -/
example : ¬ Exits (.block [.loop true (.block [.other]) (.block []), .other]) .normal :=
  analysis_sound _ rfl (by decide) (by decide)

/-- non-vacuity in the other direction: a loop with a reachable break does complete -/
example : Exits (.block [.loop true (.block [.brk]) (.block [])]) .normal :=
  .blockNext (.loopBreak (.blockStop .brk (by decide))) .blockNil

/-! ## (d) on the verified core: the machine-level statement

In `Core.coreProg` the functions of a program follow each other in the code section, so "never
runs off the end" is a statement about addresses.  It is proved as part of
`C01.core_semantic_preservation` (the committed run performs exactly the source trace and ends in
the terminal loop — it can therefore never continue into the next function); the two facts it
rests on are stated here. -/

/-- the entry point of a core program (to which the front end has appended `return;` where
needed: `noFall`, part of `wfProg`) never completes by falling off its end -/
theorem core_entry_never_falls_off (cf : Core.Config) (args : List Int) (pr : Core.CProg) (hwf : Core.wfProg pr = true)
    (fuel : Nat) (env' : Core.Env) (tr : List Ev) (res : Core.Res)
    (hex : Core.srcRun cf fuel args pr = some (env', tr, res)) : res ≠ .norm :=
  Core.exec_noFall _ _ _ _ _ _ _ _ _ _ _ _ (Core.wfProg_parts hwf).2.2.2.1 hex

/-- every activation of a core function whose body does not fall through ends at the return
address its caller stored, with the caller's frame intact (`C08.core_scope_exit_restores_frame`
for `return` / `return e`) -/
theorem core_activation_returns_to_caller {p : Sphinx.Prog} {ck : Bool} {B dA : Nat} {fa : Core.FAddr} {fns : List Core.FDecl}
    (lib : Sphinx.Placed p B) (fok : Core.FnsOK p ck B dA fa fns) (fuel F D ra : Nat) (hra : ra < 256 ^ p.w)
    (lp : Core.Jt) (hlp : lp.cont < 256 ^ p.w ∧ lp.brk < 256 ^ p.w) (hvd : lp.vd = false) (s : Core.S) (Γ : Core.Gam) (env : Core.Env) (pc o : Nat) (m : Sphinx.Mem) (env' : Core.Env) (tr : List Ev) (res : Core.Res)
    (hpl : Sphinx.PlacedAt p pc (Core.cS (Core.cxOf p ck B dA) fa lp Γ pc o s))
    (hB : pc + (Core.cS (Core.cxOf p ck B dA) fa lp Γ pc o s).length ≤ B)
    (hinv : Core.SInv p .plain Γ env m F D o ra) (hd : Core.Disj p.w Γ) (hwf : Core.wfS fns false (Γ.map Prod.fst) s = true)
    (hpk : Core.pkS p.w o s ≤ D) (ho : p.w ≤ o) (hnt : Core.noTry s = true)
    (hex : Core.exec (256 ^ p.w) (8 * p.w) fns p.w fuel D o env s = some (env', tr, res))
    (hres : res = .returned ∨ ∃ v, res = .retv v) :
    ∃ st', PSys.Reach (Sphinx.sphinx p) ⟨pc, m⟩ tr st' ∧ st'.pc = ra ∧ Core.Keep p.w m st'.mem F := by
  obtain ⟨st', r, k, _, _, h2⟩ := Core.core_frame_restored lib fok fuel F D ra hra lp hlp hvd s Γ env pc o m env' tr res hpl hB hinv hd
    hwf hpk ho hnt hex (Or.inr hres)
  exact ⟨st', r, h2 (by rcases hres with h | ⟨v, h⟩ <;> subst h <;> simp), k⟩

/-- **(b), for every source text**: in every accepted program, no function body can complete normally — a value-returning
function whose body could is rejected ("Missing return statement"), an `empty` one gets a `return;` appended. The skeleton
semantics lets every condition go either way, every loop run any number of times and every statement that evaluates an
expression be defeated, so this covers defeat functions called in expression position, which the analysis cannot see. -/
theorem accepted_function_never_falls_off (lint : Bool) (src : List HidVerif.Hid.Lex.Line) (p : HidVerif.Hid.Parse.PProgram)
    (tp : HidVerif.Hid.TC.TProgram) (hparse : HidVerif.Hid.Parse.parse src = .ok p) (htc : HidVerif.Hid.TC.tcProgram lint p = .ok tp) :
    ∀ tf ∈ tp.funcs, ¬ Exits (HidVerif.Hid.TC.skelOf tf.body) .normal :=
  HidVerif.Hid.TC.accepted_never_falls_off lint src p tp hparse htc

/-- the hypotheses are met, and the rejection is real: the first source is accepted (the infinite loop has no `break`,
the `try` returns on both sides), the second and third are rejected for a missing return -/
example :
    let line (s : String) : List HidVerif.Hid.Lex.Line := [s.toList.map Char.toNat]
    let run (s : String) : Nat := match HidVerif.Hid.Parse.parse (line s) with
      | .ok p => (match HidVerif.Hid.TC.tcProgram false p with | .ok _ => 0 | .error (.tc _) => 1 | .error (.internal _) => 2)
      | .error _ => 3
    run "int !g(int x) { !truth_is_defeat(x > 3); return x; } int @f(int x) { try { return !g(x); } undo { return 0; } } int h() { while (true) { } } empty @is_you() { write(@f(2)); }" = 0 ∧
    run "int @f(int x) { try { return 1; } undo { write(x); } } empty @is_you() { }" = 1 ∧
    run "int f(bool x) { while (true) { if (x) { break; } } } empty @is_you() { }" = 1 := by
  refine ⟨by decide +kernel, by decide +kernel, by decide +kernel⟩

end HidVerif.Props.C16
