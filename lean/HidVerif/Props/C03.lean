import HidVerif.Proofs.Terminal
import HidVerif.Proofs.Tables
import HidVerif.Proofs.SourceLaws
import HidVerif.Proofs.CoreMain
import HidVerif.Props.C17
/-!
# C03 — halt is defeat: a compiled program never halts

Full-strength statement (kept visible; proved only for the fragments below):
  for every accepted program with defined behaviour, `¬ Halts (sphinx prog) init`.
By `cstep_halts_iff` this is the same as "the committed timeline never reaches `halt`".
-/
namespace HidVerif.Props.C03
open HidVerif HidVerif.PSys HidVerif.Sphinx HidVerif.Gen

/-- the full statement, as a proposition about a loaded program -/
def C03_statement (p : Prog) (init : St) : Prop := ¬ Halts (sphinx p) init

/-- committed execution preserves halting status: "never commits a halt" ⇔ `¬ Halts init` -/
theorem never_commits_halt_iff (p : Prog) {s s' : St} {tr} (h : Exec (sphinx p) s tr s') :
    Halts (sphinx p) s ↔ Halts (sphinx p) s' := exec_halts_iff h

/-- mechanism 3 of the property: the win/error end states are loops that never fall into
`halt` — for the library text of the current tree, every `w ≥ 2`, any memory -/
theorem terminal_never_halts {p : Prog} {B : Nat} (hp : Placed p B) (m : Mem) :
    ¬ Halts (sphinx p) ⟨B + off_all_is_win, m⟩ ∧ ¬ Halts (sphinx p) ⟨B + off_all_is_broken, m⟩ ∧
    ¬ Halts (sphinx p) ⟨B + off_stack_overflow, m⟩ ∧ ¬ Halts (sphinx p) ⟨B + off_division_by_zero, m⟩ ∧
    ¬ Halts (sphinx p) ⟨B + off_out_of_bounds, m⟩ ∧ ¬ Halts (sphinx p) ⟨B + off_nonlocal_preempt, m⟩ :=
  Sphinx.terminal_never_halts hp m

/-- mechanism 2: the inverse condition placed at every branch target is the logical negation,
for all ten conditional halts of the regenerated table -/
theorem halt_inversion_sound (M a b : Nat) :
    ∀ pr ∈ haltInversion, haltCond M pr.2 a b = !haltCond M pr.1 a b :=
  Sphinx.halt_inversion_sound M a b

theorem halt_inversion_total : ∀ c : HaltOp, ∃ c', (c, c') ∈ haltInversion := Sphinx.haltInversion_total

/-- `j X; halt` is an unconditional transfer that never commits the halt -/
theorem goto_reach {p : Prog} {pc x : Nat} {t : Arg} {m : Mem}
    (c0 : p.code[pc]? = some (.j t)) (c1 : p.code[pc + 1]? = some .halt)
    (ht : evalArg p ⟨pc, m⟩ t = some x) : Reach (sphinx p) ⟨pc, m⟩ [] ⟨x, m⟩ :=
  jump_halt c0 c1 ht

/-- what a VM verdict means: `hidmodel` reporting `terminal`/`fault` exhibits a committed run
that never halts; reporting `halted` exhibits `Halts init` -/
theorem vm_verdict_sound {p : Prog} {B : Nat} (hp : Placed p B) (fuel : Nat) (s₀ : St) :
    Sound (sphinx p) (fun s => s.pc == tntPc B) s₀
      ((sphinx p).run (fun s => s.pc == tntPc B) (fun _ => #[]) fuel s₀) := vm_sound hp fuel s₀

/-! ## The print routines of the library commit no halt of their own -/

/-- `Reach` preserves the halting status in both directions -/
theorem reach_halts_iff {p : Prog} {s s' : St} {tr} (h : Reach (sphinx p) s tr s') :
    Halts (sphinx p) s ↔ Halts (sphinx p) s' :=
  ⟨fun hs => Classical.byContradiction (fun hn => (h.exec hn).2 hs), h.1⟩

/-- **library print routines never halt**: called according to the calling convention (the hypotheses of the
C17 theorems: registers in place, argument slots below `fp`, lengths below half the address space - zero
included), each of `write_int`, `write_string`, `write_const_byte_array`, `write_state_byte_array` and
`write_bool` halts iff the caller's continuation at the return address does; their Turing jumps (the
empty-array guards among them) are all resolved inside the routine.  For the library text of the current
tree, every `w ≥ 2`. -/
theorem library_writes_never_halt (p : Prog) (B : Nat) (hp : Placed p B) (m : Mem) (F ra r0 r1 r2 : Nat)
    (hF : 6 * p.w ≤ F) (hFM : F < 256 ^ p.w) (hFsz : F ≤ m.size) (hr : Regs p.w m F r0 r1 r2)
    (hra : m.readLE (F - p.w) p.w = ra) :
    (∀ v, v < 256 ^ p.w → 5 * p.w + (digits (absW (256 ^ p.w) v)).length + p.w ≤ F → 7 * p.w ≤ F →
      m.readLE (F - 2 * p.w) p.w = v →
      ∃ m', (Halts (sphinx p) ⟨B + off_write_int, m⟩ ↔ Halts (sphinx p) ⟨ra, m'⟩)) ∧
    (∀ s k, k < 256 ^ p.w / 2 → s + p.w + k < 256 ^ p.w → s + p.w + k ≤ p.const.size →
      m.readLE (F - 2 * p.w) p.w = s → p.const.readLE s p.w = k →
      ∃ m', (Halts (sphinx p) ⟨B + off_write_string, m⟩ ↔ Halts (sphinx p) ⟨ra, m'⟩)) ∧
    (∀ a k, k < 256 ^ p.w / 2 → a + k < 256 ^ p.w → a + k ≤ p.const.size →
      m.readLE (F - 3 * p.w) p.w = a → m.readLE (F - 2 * p.w) p.w = k →
      ∃ m', (Halts (sphinx p) ⟨B + off_write_const_byte_array, m⟩ ↔ Halts (sphinx p) ⟨ra, m'⟩)) ∧
    (∀ a k, k < 256 ^ p.w / 2 → a + k < 256 ^ p.w → 5 * p.w ≤ a → a + k ≤ m.size →
      m.readLE (F - 3 * p.w) p.w = a → m.readLE (F - 2 * p.w) p.w = k →
      ∃ m', (Halts (sphinx p) ⟨B + off_write_state_byte_array, m⟩ ↔ Halts (sphinx p) ⟨ra, m'⟩)) ∧
    (∃ m', (Halts (sphinx p) ⟨B + off_write_bool, m⟩ ↔ Halts (sphinx p) ⟨ra, m'⟩)) := by
  refine ⟨fun v hv hroom h7 harg => ?_, fun s k hk hs hssz hptr hlen => ?_, fun a k hk ha hasz haddr hlen => ?_,
    fun a k hk ha h5 hasz haddr hlen => ?_, ?_⟩
  · obtain ⟨m', h, _⟩ := C17.write_int_correct p B hp m F v ra r0 r1 r2 hv hFM hFsz hroom h7 hr harg hra
    exact ⟨m', reach_halts_iff h⟩
  · obtain ⟨m', h, _⟩ := C17.write_string_correct p B hp m F s k ra r0 r1 r2 hk hs hssz hF hFM hFsz hr hptr hlen hra
    exact ⟨m', reach_halts_iff h⟩
  · obtain ⟨m', h, _⟩ := C17.write_const_byte_array_correct p B hp m F a k ra r0 r1 r2 hk ha hasz hF hFM hFsz hr haddr hlen hra
    exact ⟨m', reach_halts_iff h⟩
  · obtain ⟨m', h, _⟩ := C17.write_state_byte_array_correct p B hp m F a k ra r0 r1 r2 hk ha h5 hasz hF hFM hFsz hr haddr hlen hra
    exact ⟨m', reach_halts_iff h⟩
  · obtain ⟨m', h, _⟩ := C17.write_bool_correct p B hp m F ra r0 r1 r2 hF hFM hFsz hr hra
    exact ⟨m', reach_halts_iff h⟩

/-! ## The sequential integer core never halts (proved for the model that the `core`
correspondence suite identifies with the compiler's output) -/

/-- **C03 on the core**: every terminating core program, for every argument vector and in every
configuration whose stack holds the frame peak, never reaches the halted state on its committed
timeline. -/
theorem core_never_halts (cf : Core.Config) (args : List Int) (pr : Core.CProg) (hw : 2 ≤ cf.w)
    (hB : Core.progLen cf.checked pr + stdlibLength < 256 ^ cf.w) (hSE : Core.F0 cf args + Core.regsLen cf.w pr < 256 ^ cf.w)
    (hwf : Core.wfProg pr = true) (hlen : args.length = pr.params.length)
    (fuel : Nat) (env' : Core.Env) (tr : List Ev) (res : Core.Res)
    (hex : Core.srcRun cf fuel args pr = some (env', tr, res))
    (hck : res = .div0 ∨ res = .ovf → cf.checked = true)
    (hpkF : res = .ovf → ∀ fd ∈ pr.funs, Core.pkS cf.w (Core.entryOff cf.w fd.params) fd.body < 256 ^ cf.w)
    (hroom : Core.pkS cf.w (Core.entryOff cf.w pr.params) pr.body ≤ Core.roomOf cf args) :
    C03_statement (Core.coreProg cf pr) (Core.coreInit cf args pr) :=
  (Core.core_correct cf args pr hw hB hSE hwf hlen fuel env' tr res hex hck hpkF hroom).choose_spec.2

/-- … and neither does a checked build whose stack is too small: it ends in `stack_overflow` -/
theorem core_overflow_never_halts (cf : Core.Config) (args : List Int) (pr : Core.CProg)
    (hw : 2 ≤ cf.w) (hck : cf.checked = true)
    (hB : Core.progLen cf.checked pr + stdlibLength < 256 ^ cf.w) (hSE : Core.F0 cf args < 256 ^ cf.w)
    (hnd : pr.params.Nodup) (hlen : args.length = pr.params.length)
    (hsmall : Core.roomOf cf args < Core.pkS cf.w (Core.entryOff cf.w pr.params) pr.body)
    (hpkM : Core.pkS cf.w (Core.entryOff cf.w pr.params) pr.body < 256 ^ cf.w) :
    C03_statement (Core.coreProg cf pr) (Core.coreInit cf args pr) :=
  (Core.core_overflow cf args pr hw hck hB hSE hnd hlen hsmall hpkM).choose_spec.2

end HidVerif.Props.C03
