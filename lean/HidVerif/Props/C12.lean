import HidVerif.Proofs.LexLayout
import HidVerif.Proofs.LexNumber
import HidVerif.Proofs.LexWords
import HidVerif.Proofs.LexChars
/-!
# C12 — lexing is exact and independent of layout

Theorems about `Hid/Lexer.lean` (the model of `hidc.lexer`, tied by the `lex` correspondence
suite: tokens, spans and error positions on generated texts) instantiated with the tables
regenerated from the source and the running Python (`Gen.LexTables`).
Proved: (i) integer literals for every digit string, base and underscore placement; (ii) the escape table;
(iii) keyword / flavour classification for the whole keyword table; (iv) longest symbol match,
independent of the order among equal-length symbols; (v) layout independence and (vi) span exactness
for every source in layout form.  The texts of every token class meet the hypothesis: in front of white
space (`*_are_pieces`) and in front of any continuation that does not extend them (`touching_*`).
The re-layout searcher runs the same statement through the real lexer.
-/
namespace HidVerif.Props.C12
open HidVerif.Hid.Lex HidVerif.Gen

/-- (i) digits with optional single underscores between them are read completely and the
underscores do not contribute; `isD` is the digit class of the base (decimal: Unicode `\d`,
hex: `[\da-fA-F]`, …) -/
theorem int_literal_digits (isD : CP → Option Nat) (hus : isD 95 = none) (c0 : CP) (v0 : Nat) (h0 : isD c0 = some v0)
    (tl : List (Bool × CP)) (val : CP → Nat) (hv : ∀ x ∈ tl, isD x.2 = some (val x.2))
    (rest : Line) (hrest : Stops isD rest) :
    digitsSep isD (c0 :: renderTail tl ++ rest) = (v0 :: tl.map (fun x => val x.2), 1 + (renderTail tl).length) :=
  digitsSep_spec isD hus c0 v0 h0 tl val hv rest hrest

theorem int_literal_value (base : Nat) (ds : List Nat) (d : Nat) :
    ofDigits base (ds ++ [d]) = base * ofDigits base ds + d := by
  simp [ofDigits, List.foldl_append]

theorem underscore_not_digit : digitVal 95 = none ∧ hexVal 95 = none ∧ asciiIn 48 55 95 = none ∧ asciiIn 48 49 95 = none :=
  Hid.Lex.underscore_not_digit

/-- spot values through the whole reader (prefix dispatch, separators, Unicode digits) -/
example : readInt (cps "0xFF_ff;") = some (65535, 7) ∧ readInt (cps "1_000 ") = some (1000, 5)
    ∧ readInt (cps "0b1_01") = some (5, 6) ∧ readInt (cps "0o17") = some (15, 4) ∧ readInt (cps "1__2") = some (1, 1)
    ∧ readInt (cps "0x") = some (0, 1) ∧ readInt [0x661, 0x662] = some (12, 2) := by decide +kernel

/-- (iii) every keyword of the regenerated table, alone on a line, lexes to its token -/
theorem keywords_classified : ∀ kw ∈ keywordTokens, readToken (cps kw.1) = .ok (.enum kw.2) kw.1.length :=
  fun kw hkw => cps_length kw.1 ▸ readToken_of_keyword (keywords_table kw hkw).1 (keywords_table kw hkw).2

/-- … and with a flavour prefix it is rejected -/
theorem keyword_flavour_rejected : ∀ kw ∈ keywordTokens,
    readIdent (64 :: cps kw.1) = .err (1 + kw.1.length) ∧ readIdent (33 :: cps kw.1) = .err (1 + kw.1.length) :=
  fun kw hkw => cps_length kw.1 ▸
    ⟨readIdent_flavoured_of_keyword 64 (Or.inl rfl) (keywords_table kw hkw).1 (keywords_table kw hkw).2,
     readIdent_flavoured_of_keyword 33 (Or.inr rfl) (keywords_table kw hkw).1 (keywords_table kw hkw).2⟩

example : readToken (cps "@is_you(") = .ok (.ident (cps "is_you") .you) 7
    ∧ readToken (cps "!is_defeat") = .ok (.ident (cps "is_defeat") .defeat) 10
    ∧ readToken (cps "!=") = .ok (.enum "OpToken.NE") 2 ∧ readToken (cps "iffy") = .ok (.ident (cps "iffy") .none) 4 := by
  decide +kernel

/-- (iv) the answer of the symbol reader does not depend on the order among symbols of equal
length — the one place where the source depends on `set` iteration order -/
theorem symbol_order_irrelevant (l₁ l₂ : List (List CP)) (rest : List CP)
    (hmem : ∀ s, s ∈ l₁ ↔ s ∈ l₂)
    (h₁ : l₁.Pairwise (fun a b => a.length ≥ b.length)) (h₂ : l₂.Pairwise (fun a b => a.length ≥ b.length)) :
    l₁.find? (fun s => isPrefix s rest) = l₂.find? (fun s => isPrefix s rest) :=
  find_prefix_order_irrelevant l₁ l₂ rest hmem h₁ h₂

theorem symbol_longest (rest : List CP) (s : List CP)
    (h : (symbolTokens.map cps).find? (fun s => isPrefix s rest) = some s) :
    s ∈ symbolTokens.map cps ∧ isPrefix s rest = true ∧
    ∀ t ∈ symbolTokens.map cps, isPrefix t rest = true → t.length ≤ s.length := readSymbol_longest rest s h

/-- every symbol of the table, alone on a line, lexes to its token -/
theorem symbols_classified : ∀ s ∈ symbolTokens, readToken (cps s) = .ok (.enum (enumName s)) s.length := by
  intro s hs
  have := (selfDelim_symbol s hs).read [] (Or.inl rfl)
  rwa [List.append_nil, cps_length] at this

/-- (ii) the escape table: each simple escape yields the UTF-8 bytes of its code point -/
theorem escapes_classified : ∀ e ∈ escapeCodes, readEscape [92, e.1] = (match utf8 e.2 with
    | some bs => .ok bs 2 | none => .err 2) := by decide +kernel

example : readToken (cps "\"a\\x41\\u{e9}\\n\"") = .ok (.str [97, 65, 0xC3, 0xA9, 10]) 15 := by decide +kernel

/-! ## (v), (vi): layout independence and span exactness, for every source text of the layout form -/

/-- **C12 (v)+(vi)**: a source is *laid out* (`WFLine`) when every line is a sequence of token texts, each preceded
by a possibly empty white-space separator and each reading as its token in front of the rest of its line
(`ReadsAs`), optionally ending in white space and a `//` comment; lines may be empty or comment-only.  For
every such source `lex` returns exactly the tokens of the texts, in order, each with the span of exactly its
text, and ends normally at the end of the last token. -/
theorem lex_of_layout (lines : List (List Piece × Line)) (hwf : ∀ l ∈ lines, WFLine l.1 l.2) :
    lex (lines.map render) = (lexemesFrom 0 lines, .eof (lastOf ⟨0, 0⟩ (lexemesFrom 0 lines))) :=
  lex_layout lines hwf

/-- (v) two layouts of the same token texts — other separators, other comments, other line breaks —
give the same token sequence, and neither ends in an error -/
theorem layout_independence (lines lines' : List (List Piece × Line))
    (hwf : ∀ l ∈ lines, WFLine l.1 l.2) (hwf' : ∀ l ∈ lines', WFLine l.1 l.2) (hsame : tokensOf lines = tokensOf lines') :
    (lex (lines.map render)).1.map (·.tok) = (lex (lines'.map render)).1.map (·.tok) ∧
    (∃ c, (lex (lines.map render)).2 = .eof c) ∧ (∃ c, (lex (lines'.map render)).2 = .eof c) :=
  layout_independent lines lines' hwf hwf' hsame

/-- (vi) the span of every lexeme of a line covers exactly the text of its token -/
theorem span_exact (i : Nat) (ps : List Piece) (trail L : Line) (col : Nat) (h : L.drop col = renderLine ps trail) :
    ∀ lx ∈ lexemesAt i col ps, ∃ p ∈ ps, lx.tok = p.2.2 ∧ lx.start.line = i ∧ lx.stop.line = i ∧
      (L.drop lx.start.col).take (lx.stop.col - lx.start.col) = p.2.1 :=
  spans_exact i ps trail L col h

/-- the hypothesis is met by every symbol of the language … -/
theorem symbols_are_pieces (s : String) (hs : s ∈ symbolTokens) : SelfDelim (cps s) (.enum (enumName s)) :=
  selfDelim_symbol s hs

/-- non-vacuity of `lex_layout`: `( <= )`, laid out over two lines with a comment, is a well-formed
layout whose pieces are the three symbols -/
example : ∀ l ∈ ([([([32], cps "(", .enum (enumName "(")), ([32, 9], cps "<=", .enum (enumName "<="))], [32, 47, 47, 120]),
                   ([([], cps ")", .enum (enumName ")"))], [])] : List (List Piece × Line)), WFLine l.1 l.2 := by
  intro l hl
  simp only [List.mem_cons, List.not_mem_nil, or_false] at hl
  rcases hl with rfl | rfl
  · refine ⟨by decide, (selfDelim_symbol "(" (by decide +kernel)).readsAs (Or.inr ⟨32, _, rfl, by decide⟩),
      by decide, (selfDelim_symbol "<=" (by decide +kernel)).readsAs (Or.inr ⟨32, _, rfl, by decide⟩), Or.inr ⟨[32], [120], rfl, by decide⟩⟩
  · exact ⟨by decide, (selfDelim_symbol ")" (by decide +kernel)).readsAs (Or.inl rfl), Or.inl (by decide)⟩

/-- … and by every plain identifier that is not a keyword (a letter or `_`, then word characters) -/
theorem identifiers_are_pieces (c : CP) (r : Line) (hc : isIdStart c = true) (hr : ∀ d ∈ r, isWord d = true)
    (hk : keywordOf (c :: r) = none) : SelfDelim (c :: r) (.ident (c :: r) .none) :=
  selfDelim_ident c r hc hr hk

/-- … by every decimal literal over ASCII digits, with its positional value … -/
theorem decimal_literals_are_pieces (c0 : CP) (tl : List (Bool × CP)) (h0 : asciiDigit c0) (htl : ∀ x ∈ tl, asciiDigit x.2) :
    SelfDelim (c0 :: renderTail tl) (.int (ofDigits 10 ((c0 - 48) :: tl.map (fun x => x.2 - 48)))) :=
  selfDelim_decimal c0 tl h0 htl

/-- … by every `0x`, `0o` and `0b` literal with at least one digit of its class (underscores as above) … -/
theorem prefixed_literals_are_pieces (d0 : CP) (v0 : Nat) (tl : List (Bool × CP)) (val : CP → Nat) :
    ((hexVal d0 = some v0 ∧ ∀ x ∈ tl, hexVal x.2 = some (val x.2)) →
      SelfDelim (48 :: 120 :: d0 :: renderTail tl) (.int (ofDigits 16 (v0 :: tl.map (fun x => val x.2))))) ∧
    ((asciiIn 48 55 d0 = some v0 ∧ ∀ x ∈ tl, asciiIn 48 55 x.2 = some (val x.2)) →
      SelfDelim (48 :: 111 :: d0 :: renderTail tl) (.int (ofDigits 8 (v0 :: tl.map (fun x => val x.2))))) ∧
    ((asciiIn 48 49 d0 = some v0 ∧ ∀ x ∈ tl, asciiIn 48 49 x.2 = some (val x.2)) →
      SelfDelim (48 :: 98 :: d0 :: renderTail tl) (.int (ofDigits 2 (v0 :: tl.map (fun x => val x.2))))) :=
  ⟨fun h => selfDelim_hex d0 v0 h.1 tl val h.2,
   fun h => selfDelim_oct d0 v0 h.1 tl val h.2, fun h => selfDelim_bin d0 v0 h.1 tl val h.2⟩

/-- … by every string literal without escapes, whatever it contains (white space and `//` included) … -/
theorem string_literals_are_pieces (body : Line) (enc : List (List Nat)) (hb : ∀ c ∈ body, c ≠ 92 ∧ c ≠ 34)
    (henc : body.mapM utf8 = some enc) : SelfDelim (34 :: (body ++ [34])) (.str enc.flatten) :=
  selfDelim_string body enc hb henc

/-- … and by every character literal of one ASCII character other than `'` and `\` -/
theorem char_literals_are_pieces (c : CP) (h1 : c ≠ 39) (h2 : c ≠ 92) (h3 : c < 128) : SelfDelim [39, c, 39] (.chr c) :=
  selfDelim_char c h1 h2 h3

/-- string literals *with* escape sequences: any sequence of segments - a plain run followed by one complete escape
sequence - and a final plain run; the token holds the UTF-8 bytes of the runs and the bytes of the escapes in order -/
theorem escaped_string_literals_are_pieces (segs : List Seg) (hs : ∀ s ∈ segs, SegOK s) (last : Line) (lenc : List (List Nat))
    (hl : ∀ c ∈ last, c ≠ 92 ∧ c ≠ 34) (hlenc : last.mapM utf8 = some lenc) :
    SelfDelim (34 :: (bodyText segs ++ (last ++ [34]))) (.str (bodyBytes segs ++ lenc.flatten)) :=
  selfDelim_string_esc segs hs last lenc hl hlenc

theorem simple_and_hex_escapes_complete :
    (∀ c v bs, escapeCodes.lookup c = some v → utf8 v = some bs → IsEsc [92, c] bs) ∧
    (∀ a b x y, hexVal a = some x → hexVal b = some y → IsEsc [92, 120, a, b] [16 * x + y]) :=
  ⟨isEsc_simple, isEsc_hex⟩

/-- `"a\n\x41 b"` : two segments and a final run -/
example : SelfDelim (cps "\"a\\n\\x41 b\"") (.str [97, 10, 65, 32, 98]) :=
  selfDelim_string_esc [([97], [[97]], [92, 110], [10]), ([], [], [92, 120, 52, 49], [65])]
    (by
      intro s hs
      simp only [List.mem_cons, List.not_mem_nil, or_false] at hs
      rcases hs with rfl | rfl
      · exact ⟨by decide, by decide, isEsc_simple 110 10 [10] (by decide) (by decide)⟩
      · exact ⟨by decide, by decide, isEsc_hex 52 49 4 1 (by decide +kernel) (by decide +kernel)⟩)
    [32, 98] [[32], [98]] (by decide) (by decide)

/-- keywords of the table, as words on their own, are pieces denoting their keyword token … -/
theorem keywords_are_pieces (c : CP) (r : Line) (k : String) (hc : isIdStart c = true) (hr : ∀ d ∈ r, isWord d = true)
    (hk : keywordOf (c :: r) = some k) : SelfDelim (c :: r) (.enum k) :=
  selfDelim_keyword c r k hc hr hk

/-- … and so are `@name` and `!name` for names that are not keywords (`!` is not taken for the start of `!=`) -/
theorem flavoured_names_are_pieces (c : CP) (r : Line) (hc : isIdStart c = true) (hr : ∀ d ∈ r, isWord d = true)
    (hk : keywordOf (c :: r) = none) :
    SelfDelim (64 :: c :: r) (.ident (c :: r) .you) ∧ SelfDelim (33 :: c :: r) (.ident (c :: r) .defeat) :=
  ⟨selfDelim_flavoured 64 .you (Or.inl ⟨rfl, rfl⟩) c r hc hr hk, selfDelim_flavoured 33 .defeat (Or.inr ⟨rfl, rfl⟩) c r hc hr hk⟩

example : SelfDelim (cps "break") (.enum "StmtToken.BREAK") ∧ SelfDelim (cps "@is_you") (.ident (cps "is_you") .you)
    ∧ SelfDelim (cps "!f") (.ident (cps "f") .defeat) :=
  ⟨selfDelim_keyword 98 (cps "reak") _ (by decide) (by decide +kernel) (by decide +kernel),
   (flavoured_names_are_pieces 105 (cps "s_you") (by decide) (by decide +kernel) (by decide +kernel)).1,
   (flavoured_names_are_pieces 102 [] (by decide) (by decide) (by decide +kernel)).2⟩

/-- `x = 0x1_F + 12 ;` and `s = "a // b" ;` with a comment: numbers and strings in a layout -/
example :
    let lines : List (List Piece × Line) :=
      [([([], [120], .ident [120] .none), ([32], cps "=", .enum (enumName "=")), ([32, 32], cps "0x1_F", .int 31),
         ([32], cps "+", .enum (enumName "+")), ([9], cps "12", .int 12), ([32], cps ";", .enum (enumName ";"))], [32, 47, 47, 34]),
       ([([32], [115], .ident [115] .none), ([32], cps "=", .enum (enumName "=")), ([32], cps "\"a // b\"", .str [97, 32, 47, 47, 32, 98]),
         ([32], cps "'q'", .chr 113), ([32], cps ";", .enum (enumName ";"))], [])]
    (∀ l ∈ lines, WFLine l.1 l.2) ∧ (lex (lines.map render)).1.map (·.tok) = tokensOf lines := by
  intro lines
  have hx : SelfDelim [120] (.ident [120] .none) := selfDelim_ident 120 [] (by decide) (by decide) (by decide +kernel)
  have hs : SelfDelim [115] (.ident [115] .none) := selfDelim_ident 115 [] (by decide) (by decide) (by decide +kernel)
  have hhex : SelfDelim (cps "0x1_F") (.int 31) := selfDelim_hex 49 1 (by decide +kernel) [(true, 70)] (fun _ => 15) (by decide +kernel)
  have hdec : SelfDelim (cps "12") (.int 12) := selfDelim_decimal 49 [(false, 50)] (by decide) (by decide)
  have hstr : SelfDelim (cps "\"a // b\"") (.str [97, 32, 47, 47, 32, 98]) :=
    selfDelim_string [97, 32, 47, 47, 32, 98] [[97], [32], [47], [47], [32], [98]] (by decide) (by decide)
  have hchr : SelfDelim (cps "'q'") (.chr 113) := selfDelim_char 113 (by decide) (by decide) (by decide)
  have hwf : ∀ l ∈ lines, WFLine l.1 l.2 := by
    intro l hl
    simp only [lines, List.mem_cons, List.not_mem_nil, or_false] at hl
    rcases hl with rfl | rfl
    · exact ⟨by decide, hx.readsAs (Or.inr ⟨32, _, rfl, by decide⟩), by decide, (selfDelim_symbol "=" (by decide +kernel)).readsAs (Or.inr ⟨32, _, rfl, by decide⟩),
        by decide, hhex.readsAs (Or.inr ⟨32, _, rfl, by decide⟩), by decide, (selfDelim_symbol "+" (by decide +kernel)).readsAs (Or.inr ⟨9, _, rfl, by decide⟩),
        by decide, hdec.readsAs (Or.inr ⟨32, _, rfl, by decide⟩), by decide, (selfDelim_symbol ";" (by decide +kernel)).readsAs (Or.inr ⟨32, _, rfl, by decide⟩),
        Or.inr ⟨[32], [34], rfl, by decide⟩⟩
    · exact ⟨by decide, hs.readsAs (Or.inr ⟨32, _, rfl, by decide⟩), by decide, (selfDelim_symbol "=" (by decide +kernel)).readsAs (Or.inr ⟨32, _, rfl, by decide⟩),
        by decide, hstr.readsAs (Or.inr ⟨32, _, rfl, by decide⟩), by decide, hchr.readsAs (Or.inr ⟨32, _, rfl, by decide⟩),
        by decide, (selfDelim_symbol ";" (by decide +kernel)).readsAs (Or.inl rfl), Or.inl (by decide)⟩
  refine ⟨hwf, ?_⟩
  rw [lex_layout lines hwf, lexemesFrom_toks]

/-- a concrete laid-out source: `x1 <= ( y )  // c` then an empty line then `;` -/
example :
    let x1 : Piece := ([32], [120, 49], .ident [120, 49] .none)
    let le : Piece := ([9, 32], cps "<=", .enum (enumName "<="))
    let lp : Piece := ([32], cps "(", .enum (enumName "("))
    let y : Piece := ([32], [121], .ident [121] .none)
    let rp : Piece := ([32], cps ")", .enum (enumName ")"))
    let semi : Piece := ([], cps ";", .enum (enumName ";"))
    let lines : List (List Piece × Line) := [([x1, le, lp, y, rp], [32, 32, 47, 47, 32, 99]), ([], []), ([semi], [32])]
    (∀ l ∈ lines, WFLine l.1 l.2) ∧
    (lex (lines.map render)).1.map (·.tok) =
      [.ident [120, 49] .none, .enum "OpToken.LE", .enum "BracToken.LPAREN", .ident [121] .none, .enum "BracToken.RPAREN", .enum "SepToken.SEMICOLON"] := by
  intro x1 le lp y rp semi lines
  have hx1 : SelfDelim [120, 49] (.ident [120, 49] .none) := selfDelim_ident 120 [49] (by decide) (by decide) (by decide +kernel)
  have hy : SelfDelim [121] (.ident [121] .none) := selfDelim_ident 121 [] (by decide) (by decide) (by decide +kernel)
  have hwf : ∀ l ∈ lines, WFLine l.1 l.2 := by
    intro l hl
    simp only [lines, List.mem_cons, List.not_mem_nil, or_false] at hl
    rcases hl with rfl | rfl | rfl
    · exact ⟨by decide, hx1.readsAs (Or.inr ⟨9, _, rfl, by decide⟩), by decide, (selfDelim_symbol "<=" (by decide +kernel)).readsAs (Or.inr ⟨32, _, rfl, by decide⟩),
        by decide, (selfDelim_symbol "(" (by decide +kernel)).readsAs (Or.inr ⟨32, _, rfl, by decide⟩), by decide, hy.readsAs (Or.inr ⟨32, _, rfl, by decide⟩),
        by decide, (selfDelim_symbol ")" (by decide +kernel)).readsAs (Or.inr ⟨32, _, rfl, by decide⟩), Or.inr ⟨[32, 32], [32, 99], rfl, by decide⟩⟩
    · exact Or.inl (by decide)
    · exact ⟨by decide, (selfDelim_symbol ";" (by decide +kernel)).readsAs (Or.inr ⟨32, _, rfl, by decide⟩), Or.inl (by decide)⟩
  refine ⟨hwf, ?_⟩
  rw [lex_layout lines hwf, lexemesFrom_toks]
  rfl

/-! ## tokens that touch: `ReadsAs` without white space -/

/-- maximal munch: a symbol reads as itself in front of any continuation of which no longer symbol is a prefix
(and which does not turn it into a comment) … -/
theorem touching_symbol (s : String) (hs : s ∈ symbolTokens) (rest : Line)
    (hmax : ∀ s' ∈ symbolTokens, (cps s).length < (cps s').length → isPrefix (cps s') (cps s ++ rest) = false)
    (hnc : ∀ r, cps s ++ rest ≠ 47 :: 47 :: r) : ReadsAs (cps s) (.enum (enumName s)) rest :=
  readsAs_symbol s hs rest hmax hnc

/-- … in particular whenever the next character is neither `=` nor `?` (and not `/` after `/`) -/
theorem touching_symbol_next (s : String) (hs : s ∈ symbolTokens) (c : CP) (r : Line) (h1 : c ≠ 61) (h2 : c ≠ 63)
    (h3 : cps s = [47] → c ≠ 47) : ReadsAs (cps s) (.enum (enumName s)) (c :: r) :=
  readsAs_symbol_next s hs c r h1 h2 h3

/-- a word in front of anything that is not a word character reads as its keyword if it is one, else as a plain
identifier; `@word` / `!word` for non-keywords likewise -/
theorem touching_word (c : CP) (r : Line) (hc : isIdStart c = true) (hr : ∀ d ∈ r, isWord d = true) (rest : Line)
    (hrest : NotWordNext rest) :
    (∀ k, keywordOf (c :: r) = some k → ReadsAs (c :: r) (.enum k) rest) ∧
    (keywordOf (c :: r) = none → ReadsAs (c :: r) (.ident (c :: r) .none) rest ∧
      ReadsAs (64 :: c :: r) (.ident (c :: r) .you) rest ∧ ReadsAs (33 :: c :: r) (.ident (c :: r) .defeat) rest) := by
  have h := readsAs_word c r hc hr rest hrest
  refine ⟨fun k hk => by rw [hk] at h; exact h, fun hk => ⟨by rw [hk] at h; exact h,
    readsAs_flavoured 64 .you (Or.inl ⟨rfl, rfl⟩) c r hc hr hk rest hrest,
    readsAs_flavoured 33 .defeat (Or.inr ⟨rfl, rfl⟩) c r hc hr hk rest hrest⟩⟩

/-- integer literals in front of anything that does not continue them (`Stops`: no digit of the class, no `_digit`;
a lone `0` not before a base letter) -/
theorem touching_decimal (c0 : CP) (tl : List (Bool × CP)) (h0 : asciiDigit c0) (htl : ∀ x ∈ tl, asciiDigit x.2) (rest : Line)
    (hstop : Stops digitVal rest) (hzero : tl = [] → c0 = 48 → ∀ q r, rest = q :: r → q ≠ 120 ∧ q ≠ 111 ∧ q ≠ 98) :
    ReadsAs (c0 :: renderTail tl) (.int (ofDigits 10 ((c0 - 48) :: tl.map (fun x => x.2 - 48)))) rest :=
  readsAs_decimal c0 tl h0 htl rest hstop hzero

/-- the same for digits of the whole class `\d` the lexer accepts (Unicode `Nd`), mixed freely -/
theorem touching_decimal_unicode (c0 v0 : Nat) (h0 : digitVal c0 = some v0) (tl : List (Bool × CP)) (val : CP → Nat)
    (hv : ∀ x ∈ tl, digitVal x.2 = some (val x.2)) (rest : Line) (hstop : Stops digitVal rest)
    (hzero : tl = [] → c0 = 48 → ∀ q r, rest = q :: r → q ≠ 120 ∧ q ≠ 111 ∧ q ≠ 98) :
    ReadsAs (c0 :: renderTail tl) (.int (ofDigits 10 (v0 :: tl.map (fun x => val x.2)))) rest :=
  readsAs_decimal_unicode c0 v0 h0 tl val hv rest hstop hzero

example : ReadsAs [0x661, 0x32, 95, 0xFF13] (.int 123) [59] :=
  readsAs_decimal_unicode 0x661 1 (by decide +kernel) [(false, 0x32), (true, 0xFF13)] (fun c => if c = 0x32 then 2 else 3)
    (by decide +kernel) [59] ⟨by decide +kernel, fun h => absurd h (by decide)⟩ (fun h => absurd h (by decide))

theorem touching_hex (d0 : CP) (v0 : Nat) (h0 : hexVal d0 = some v0) (tl : List (Bool × CP)) (val : CP → Nat)
    (hv : ∀ x ∈ tl, hexVal x.2 = some (val x.2)) (rest : Line) (hstop : Stops hexVal rest) :
    ReadsAs (48 :: 120 :: d0 :: renderTail tl) (.int (ofDigits 16 (v0 :: tl.map (fun x => val x.2)))) rest :=
  readsAs_prefixed 120 hexVal 16 underscore_not_digit.2.1 readInt_hex d0 v0 h0 tl val hv rest hstop

theorem touching_oct_bin (d0 : CP) (v0 : Nat) (tl : List (Bool × CP)) (val : CP → Nat) (rest : Line) :
    ((asciiIn 48 55 d0 = some v0 ∧ (∀ x ∈ tl, asciiIn 48 55 x.2 = some (val x.2)) ∧ Stops (asciiIn 48 55) rest) →
      ReadsAs (48 :: 111 :: d0 :: renderTail tl) (.int (ofDigits 8 (v0 :: tl.map (fun x => val x.2)))) rest) ∧
    ((asciiIn 48 49 d0 = some v0 ∧ (∀ x ∈ tl, asciiIn 48 49 x.2 = some (val x.2)) ∧ Stops (asciiIn 48 49) rest) →
      ReadsAs (48 :: 98 :: d0 :: renderTail tl) (.int (ofDigits 2 (v0 :: tl.map (fun x => val x.2)))) rest) :=
  ⟨fun h => readsAs_prefixed 111 (asciiIn 48 55) 8 underscore_not_digit.2.2.1 readInt_oct d0 v0 h.1 tl val h.2.1 rest h.2.2,
   fun h => readsAs_prefixed 98 (asciiIn 48 49) 2 underscore_not_digit.2.2.2 readInt_bin d0 v0 h.1 tl val h.2.1 rest h.2.2⟩

/-- string literals, with any complete escape sequences, and plain character literals read the same in front of anything -/
theorem touching_quoted (rest : Line) :
    (∀ (segs : List Seg) (last : Line) (lenc : List (List Nat)), (∀ s ∈ segs, SegOK s) → (∀ c ∈ last, c ≠ 92 ∧ c ≠ 34) →
      last.mapM utf8 = some lenc → ReadsAs (34 :: (bodyText segs ++ (last ++ [34]))) (.str (bodyBytes segs ++ lenc.flatten)) rest) ∧
    (∀ c, c ≠ 39 → c ≠ 92 → c < 128 → ReadsAs [39, c, 39] (.chr c) rest) :=
  ⟨fun segs last lenc hs hl hlenc => readsAs_string_esc segs hs last lenc hl hlenc rest, fun c h1 h2 h3 => readsAs_char c h1 h2 h3 rest⟩

/-- character literals written with a complete one-byte escape sequence (`'\\n'`, `'\\x41'`, `'\\''`, …) read as their
byte in front of anything -/
theorem escaped_char_literals_are_pieces (e : Line) (b : Nat) (he : IsEsc e [b]) (rest : Line) :
    ReadsAs (39 :: (e ++ [39])) (.chr b) rest :=
  readsAs_char_esc e b he rest

/-- `\\u{h…}` is a complete escape sequence: at least one hex digit, a value up to 0x10FFFF that is not a surrogate;
usable in strings and, when it encodes to one byte, in character literals -/
theorem unicode_escapes_complete (hs : Line) (bs : List Nat) (hne : hs ≠ []) (hh : ∀ c ∈ hs, (hexVal c).isSome = true)
    (hcp : ofDigits 16 (hs.filterMap hexVal) ≤ 0x10FFFF) (hu : utf8 (ofDigits 16 (hs.filterMap hexVal)) = some bs) :
    IsEsc (92 :: 117 :: 123 :: (hs ++ [125])) bs :=
  isEsc_unicode hs bs hne hh hcp hu

example : ReadsAs (cps "'\\n'") (.chr 10) (cps ";") ∧ IsEsc (cps "\\u{e9}") [0xC3, 0xA9] ∧ ReadsAs (cps "'\\u{41}'") (.chr 65) [] :=
  ⟨readsAs_char_esc [92, 110] 10 (isEsc_simple 110 10 [10] (by decide) (by decide)) _,
   isEsc_unicode (cps "e9") _ (by decide) (by decide +kernel) (by decide +kernel) (by decide +kernel),
   readsAs_char_esc (cps "\\u{41}") 65 (isEsc_unicode (cps "41") _ (by decide) (by decide +kernel) (by decide +kernel) (by decide +kernel)) _⟩

/-- `f(x1)+=0x1F;//c` and `while(n<=10)"a b"` : no white space anywhere between the tokens -/
example :
    let lines : List (List Piece × Line) :=
      [([([], [102], .ident [102] .none), ([], cps "(", .enum (enumName "(")), ([], [120, 49], .ident [120, 49] .none),
         ([], cps ")", .enum (enumName ")")), ([], cps "+=", .enum (enumName "+=")), ([], cps "0x1F", .int 31),
         ([], cps ";", .enum (enumName ";"))], cps "//c"),
       ([([], cps "while", .enum "BlockToken.WHILE"), ([], cps "(", .enum (enumName "(")), ([], [110], .ident [110] .none),
         ([], cps "<=", .enum (enumName "<=")), ([], cps "10", .int 10), ([], cps ")", .enum (enumName ")")),
         ([], cps "\"a b\"", .str [97, 32, 98])], [])]
    (∀ l ∈ lines, WFLine l.1 l.2) ∧ (lex (lines.map render)).1.map (·.tok) = tokensOf lines
      ∧ lines.map render = [cps "f(x1)+=0x1F;//c", cps "while(n<=10)\"a b\""] := by
  intro lines
  have hwf : ∀ l ∈ lines, WFLine l.1 l.2 := by
    intro l hl
    simp only [lines, List.mem_cons, List.not_mem_nil, or_false] at hl
    rcases hl with rfl | rfl
    · exact ⟨by decide, ((touching_word 102 [] (by decide) (by decide) _ (Or.inr ⟨40, _, rfl, not_word_ascii 40 (by decide)⟩)).2 (by decide +kernel)).1,
        by decide, touching_symbol_next "(" (by decide +kernel) 120 _ (by decide) (by decide) (fun h => absurd h (by decide)),
        by decide, ((touching_word 120 [49] (by decide) (by decide +kernel) _ (Or.inr ⟨41, _, rfl, not_word_ascii 41 (by decide)⟩)).2 (by decide +kernel)).1,
        by decide, touching_symbol_next ")" (by decide +kernel) 43 _ (by decide) (by decide) (fun h => absurd h (by decide)),
        by decide, touching_symbol_next "+=" (by decide +kernel) 48 _ (by decide) (by decide) (fun h => absurd h (by decide)),
        by decide, touching_hex 49 1 (by decide +kernel) [(false, 70)] (fun _ => 15) (by decide +kernel) _
          ⟨by decide +kernel, fun h => absurd h (by decide)⟩,
        by decide, touching_symbol_next ";" (by decide +kernel) 47 _ (by decide) (by decide) (fun h => absurd h (by decide)),
        Or.inr ⟨[], [99], rfl, by decide⟩⟩
    · exact ⟨by decide, (touching_word 119 (cps "hile") (by decide) (by decide +kernel) _ (Or.inr ⟨40, _, rfl, not_word_ascii 40 (by decide)⟩)).1 _ (by decide +kernel),
        by decide, touching_symbol_next "(" (by decide +kernel) 110 _ (by decide) (by decide) (fun h => absurd h (by decide)),
        by decide, ((touching_word 110 [] (by decide) (by decide) _ (Or.inr ⟨60, _, rfl, not_word_ascii 60 (by decide)⟩)).2 (by decide +kernel)).1,
        by decide, touching_symbol_next "<=" (by decide +kernel) 49 _ (by decide) (by decide) (fun h => absurd h (by decide)),
        by decide, touching_decimal 49 [(false, 48)] (by decide) (by decide) _ ⟨by decide +kernel, fun h => absurd h (by decide)⟩
          (fun h => absurd h (by decide)),
        by decide, touching_symbol_next ")" (by decide +kernel) 34 _ (by decide) (by decide) (fun h => absurd h (by decide)),
        by decide, (touching_quoted []).1 [] [97, 32, 98] [[97], [32], [98]] (fun _ h => absurd h (by simp)) (by decide) (by decide),
        Or.inl (by decide)⟩
  refine ⟨hwf, ?_, by decide +kernel⟩
  rw [lex_layout lines hwf, lexemesFrom_toks]

end HidVerif.Props.C12
