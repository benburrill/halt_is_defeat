import HidVerif.Hid.TypecheckStmt
import HidVerif.Proofs.Escape
import HidVerif.Proofs.ParseFuel
import HidVerif.Proofs.TypeSoundProg
import HidVerif.Proofs.NoInternalModes
/-!
# C10 — the compiler is total

The front-end models are total Lean functions by construction (`Lex.lex`, and with explicit
fuel `Parse.parse`, which `parse_never_runs_out_of_fuel` shows is never exhausted); their agreement with the implementation on error *class and position* is
the content of the `lex`/`parse`/`tc` suites.  Proved here: what rendering needs — every byte
string that reaches an `.ascii` directive or a character immediate is accepted back by the
assembler (C13's round trip), and the front end of the model never reports an internal error,
for any source text (`typechecker_never_internal`, `front_end_total`).  RUNTIME BEHAVIOUR NOT MODELLED: exit status, stderr and the
output file of the `hidc` process are observed on the real command-line tool.
-/
namespace HidVerif.Props.C10
open HidVerif.Sphinx HidVerif.Gen HidVerif.Sphinx.Asm

/-- string data never makes the output unassemblable -/
theorem ascii_always_assemblable (bs : List Nat) (hbs : ∀ b ∈ bs, b < 256) :
    unescape '"' (chars (escapeBytes bs [34])) = .ok bs := escape_roundtrip 34 (by simp) bs hbs

theorem char_immediate_always_assemblable (b : Nat) (hb : b < 256) :
    unescape '\'' (chars (escapeBytes [b] [39])) = .ok [b] := escape_roundtrip 39 (by simp) [b] (by simpa using hb)

/-- the lexer model is a total function: it returns tokens and an ending for every input -/
theorem lex_total (src : List HidVerif.Hid.Lex.Line) : ∃ toks ending, HidVerif.Hid.Lex.lex src = (toks, ending) :=
  ⟨_, _, rfl⟩

/-- the explicit fuel of the parser model is always enough: the model never answers "out of fuel", for any
source text whatsoever (the budget is `16·|tokens| + 64`; `Proofs/ParseFuel.lean` proves by induction that
every parser of the grammar, given fuel `16·|remaining tokens| + c` for its own constant `c`, does not run
out: a call either follows a consumed token, which pays for 16 calls, or goes to a function with a smaller constant) — so the recursion of the real coroutine parser,
which this fuel stands in for, is bounded by a linear function of the number of tokens -/
theorem parse_never_runs_out_of_fuel (src : List HidVerif.Hid.Lex.Line) :
    HidVerif.Hid.Parse.parse src ≠ .error .fuel := HidVerif.Hid.Parse.parse_never_out_of_fuel src

/-- the parser model is total in the strong sense: for every input it returns a tree or a *located* lexer
or parser error — there is no fourth outcome -/
theorem parse_total (src : List HidVerif.Hid.Lex.Line) :
    (∃ p, HidVerif.Hid.Parse.parse src = .ok p) ∨ (∃ c, HidVerif.Hid.Parse.parse src = .error (.lexer c)) ∨
      (∃ c, HidVerif.Hid.Parse.parse src = .error (.parser c)) := by
  have hf := parse_never_runs_out_of_fuel src
  cases h : HidVerif.Hid.Parse.parse src with
  | ok p => exact Or.inl ⟨p, rfl⟩
  | error e =>
    cases e with
    | lexer c => exact Or.inr (Or.inl ⟨c, rfl⟩)
    | parser c => exact Or.inr (Or.inr ⟨c, rfl⟩)
    | fuel => exact absurd h hf

/-! ### the assertions inside the typechecker cannot fire

`hidc/ast/expressions.py` asserts, when the type of a cast node is asked for, that the operand has the source type
of the cast (`TypeCast.type`), and that the operand of `Volatile` is a non-const array; `statements.py` asserts that a
declaration whose coerced initialiser is `Volatile` has a const array type.  In the typed tree these are the `.cast`
clause of `wtE` (`castSrcOK`) — which `C07.accepted_programs_are_well_typed` proves of every node of every accepted
program — and the following corollary. The typechecker model is a total function (structural recursion throughout
`tcProgram`'s call graph), so it returns a tree or an error for every parse tree. -/
open HidVerif.Hid.TC in
/-- a declaration whose initialiser was coerced to a volatile view has a const array type (`assert self.var.type.const`) -/
theorem volatile_initialiser_means_const_array (fs : List FuncSig) (init e : TE) (ty : HidVerif.Hid.Ty)
    (hw : wtE fs init = true) (hty : HidVerif.Hid.Parse.tyOK ty = true) (h : coerce init ty = .ok (.cast .vol e)) :
    ∃ el, ty = .arr el true := by
  have h2 := (coerce_ok hw (tyOK_tgtOK hty) h).2
  simp only [typeOf] at h2
  cases ht : typeOf e with
  | arr el c => rw [ht] at h2; exact ⟨el, h2.symm⟩
  | _ =>
    have h1 := (coerce_ok hw (tyOK_tgtOK hty) h).1
    simp [wtE, castSrcOK, ht] at h1

open HidVerif.Hid.TC in
/-- in an accepted tree the operand of every cast node has the source type of the cast (`assert expr_type ==
self.expr.type`, `assert not self.expr.type.const`): this is how `wtE` reads on a cast node -/
theorem cast_node_operand_type (fs : List FuncSig) (k : HidVerif.Hid.CastK) (e : TE) (h : wtE fs (.cast k e) = true) :
    castSrcOK k (typeOf e) = true := by
  simp only [wtE, Bool.and_eq_true] at h; exact h.2

/-- the typechecker model never reports an internal error (an `assert` of `hidc/ast`, an unknown operator class) on a
program the parser accepted (`Proofs/NoInternal*.lean`) -/
theorem typechecker_never_internal (lint : Bool) (src : List HidVerif.Hid.Lex.Line) (p : HidVerif.Hid.Parse.PProgram)
    (hparse : HidVerif.Hid.Parse.parse src = .ok p) (m : String) : HidVerif.Hid.TC.tcProgram lint p ≠ .error (.internal m) :=
  HidVerif.Hid.TC.typechecker_never_internal lint src p hparse m

/-- **the front end is total**: for every source text the model answers a located lexer error, a located parser error,
a type error, or a typed tree — it neither runs out of fuel nor reports an internal error -/
theorem front_end_total (lint : Bool) (src : List HidVerif.Hid.Lex.Line) :
    (∃ c, HidVerif.Hid.Parse.parse src = .error (.lexer c)) ∨ (∃ c, HidVerif.Hid.Parse.parse src = .error (.parser c)) ∨
    (∃ p, HidVerif.Hid.Parse.parse src = .ok p ∧
      ((∃ tp, HidVerif.Hid.TC.tcProgram lint p = .ok tp) ∨ (∃ msg, HidVerif.Hid.TC.tcProgram lint p = .error (.tc msg)))) := by
  rcases parse_total src with ⟨p, hp⟩ | h | h
  · refine Or.inr (Or.inr ⟨p, hp, ?_⟩)
    cases ht : HidVerif.Hid.TC.tcProgram lint p with
    | ok tp => exact Or.inl ⟨tp, rfl⟩
    | error e =>
      cases e with
      | tc msg => exact Or.inr ⟨msg, rfl⟩
      | internal m => exact absurd ht (typechecker_never_internal lint src p hp m)
  · exact Or.inl h
  · exact Or.inr (Or.inl h)

/-- the two outcomes on the typechecker's side both occur -/
example :
    let line (s : String) : List HidVerif.Hid.Lex.Line := [s.toList.map Char.toNat]
    let run (s : String) : Nat := match HidVerif.Hid.Parse.parse (line s) with
      | .ok p => (match HidVerif.Hid.TC.tcProgram false p with | .ok _ => 0 | .error (.tc _) => 1 | .error (.internal _) => 2)
      | .error _ => 3
    run "empty !d() { !is_defeat(); } empty @is_you() { int i = 0; while (true) { i += 1; if (i > 3) { break; } } try { !d(); } undo { } }" = 0 ∧
    run "empty @is_you() { int i = true + 1; }" = 1 ∧ run "empty @is_you() { break; }" = 3 := by
  refine ⟨by decide +kernel, by decide +kernel, by decide +kernel⟩

end HidVerif.Props.C10
