import HidVerif.Proofs.Guards
import HidVerif.Proofs.WriteIntSpec
import HidVerif.Proofs.CoreMain
/-!
# C04 — checked builds are memory safe, even with the stack exactly full

Mechanism theorems (all word sizes, all values), and for the sequential integer core the exactness of the stack
check end to end (`core_stack_check_exact`, `core_call_stack_check`).  The whole-program invariant beyond the core is
validated by the access monitor of `Sphinx/Monitor.lean` at the minimal succeeding stack size ± 1.
-/
namespace HidVerif.Props.C04
open HidVerif HidVerif.PSys HidVerif.Sphinx HidVerif.Gen HidVerif.Compiler

/-- the function-entry guard lets the function run iff its whole static frame (`k` bytes: the
`Tracker` maximum) fits between the array region and `fp`; otherwise `stack_overflow` -/
theorem entry_guard_exact {p : Prog} {B pc ok k : Nat} {m : Mem} (hp : Placed p B)
    (h : PlacedAt p pc (entryGuard p.w ok k (B + off_stack_overflow))) (hok : ok < 256 ^ p.w)
    (hsz : 5 * p.w ≤ m.size) (hk : k < 256 ^ p.w)
    {fp ap : Nat} (hfp : m.readLE p.w p.w = fp) (hap : m.readLE 0 p.w = ap) (hle : ap ≤ fp) :
    (ap + k ≤ fp → Reach (sphinx p) ⟨pc, m⟩ [] ⟨ok, m⟩) ∧
    (¬ ap + k ≤ fp → ∃ m', Exec (sphinx p) ⟨pc, m⟩ [Ev.flag "stack_overflow", Ev.flag "error"] ⟨tntPc B, m'⟩ ∧
        ¬ Halts (sphinx p) ⟨pc, m⟩) := Sphinx.entry_guard_exact hp h hok hsz hk hfp hap hle

/-- no wrap-around in the free-space computation -/
theorem gap_arith {M fp ap : Nat} (h : ap ≤ fp) (hfp : fp < M) : (fp + M - ap % M) % M = fp - ap :=
  Sphinx.gap_arith h hfp

/-- the unsigned index check is the two-sided bounds check -/
theorem index_guard_arith {M idx len : Nat} (hlen : len < M / 2) (hidx : idx < M) :
    idx < len ↔ (0 ≤ toS M idx ∧ toS M idx < (len : Int)) := Sphinx.index_guard_arith hlen hidx

/-- a sane length cannot make the size computation wrap -/
theorem length_guard_arith {M w len : Nat} (hw : 0 < w) (hH : 0 < M / 2) (hlen : len ≤ (M / 2 - 1) / w) :
    len * w < M / 2 ∧ toS M len = (len : Int) := Sphinx.length_guard_arith hw hH hlen

/-- footprint of the one library routine that writes to the stack: `write(int)` changes only
its registers and the `k` digit bytes `[fp-w-k, fp-w)`; with the call-site accounting of the
fix for D4 (`k ≤ maxDigits`) these lie inside the guarded frame -/
theorem write_int_footprint (p : Prog) (B : Nat) (hp : Placed p B)
    (m : Mem) (F v ra r0 r1 r2 : Nat)
    (hv : v < 256 ^ p.w) (hFM : F < 256 ^ p.w) (hFsz : F ≤ m.size)
    (hroom : 5 * p.w + (digits (absW (256 ^ p.w) v)).length + p.w ≤ F) (h7 : 7 * p.w ≤ F)
    (hr : Regs p.w m F r0 r1 r2)
    (harg : m.readLE (F - 2 * p.w) p.w = v) (hra : m.readLE (F - p.w) p.w = ra) :
    ∃ m', Reach (sphinx p) ⟨B + off_write_int, m⟩ (outs (decimalW (256 ^ p.w) v)) ⟨ra, m'⟩ ∧
      Same p.w m m' (F - p.w - (digits (absW (256 ^ p.w) v)).length) (F - p.w) :=
  write_int_spec p B hp m F v ra r0 r1 r2 hv hFM hFsz hroom h7 hr harg hra

/-! ## The sequential integer core: the stack check is exact -/

/-- **C04 on the core**: a checked build either has room for the frame peak (then
`C01.core_semantic_preservation` applies: every access stays inside the frame, which is what its
proof establishes instruction by instruction) or reports `stack_overflow` before executing any
statement — there is no third possibility, for any stack size (including 0), argument vector and
word size. -/
theorem core_stack_check_exact (cf : Core.Config) (args : List Int) (pr : Core.CProg)
    (hw : 2 ≤ cf.w) (hck : cf.checked = true)
    (hB : Core.progLen cf.checked pr + stdlibLength < 256 ^ cf.w) (hSE : Core.F0 cf args < 256 ^ cf.w)
    (hnd : pr.params.Nodup) (hlen : args.length = pr.params.length)
    (hsmall : Core.roomOf cf args < Core.pkS cf.w (Core.entryOff cf.w pr.params) pr.body)
    (hpkM : Core.pkS cf.w (Core.entryOff cf.w pr.params) pr.body < 256 ^ cf.w) :
    ∃ mEnd, Exec (sphinx (Core.coreProg cf pr)) (Core.coreInit cf args pr)
      [Ev.flag "stack_overflow", Ev.flag "error"] ⟨tntPc (Core.progLen cf.checked pr), mEnd⟩ :=
  let ⟨m, h, _⟩ := Core.core_overflow cf args pr hw hck hB hSE hnd hlen hsmall hpkM
  ⟨m, h⟩

/-- **C04 on the core, calls**: the same at every call, at any depth of (recursive) calls: when the
source run ends in `.ovf` — some callee's frame peak exceeds what is left of the stack at the
moment of the call (`Core.callWith`) — a checked build prints exactly what was printed before,
then `stack_overflow`, `error`, and stays in the terminal loop; the callee's body is never
entered.  Together with `C01.core_semantic_preservation` (all other outcomes) this decides every
call of every core program. -/
theorem core_call_stack_check (cf : Core.Config) (args : List Int) (pr : Core.CProg)
    (hw : 2 ≤ cf.w) (hck : cf.checked = true)
    (hB : Core.progLen cf.checked pr + stdlibLength < 256 ^ cf.w) (hSE : Core.F0 cf args + Core.regsLen cf.w pr < 256 ^ cf.w)
    (hwf : Core.wfProg pr = true) (hlen : args.length = pr.params.length)
    (hpkF : ∀ fd ∈ pr.funs, Core.pkS cf.w (Core.entryOff cf.w fd.params) fd.body < 256 ^ cf.w)
    (fuel : Nat) (env' : Core.Env) (tr : List Ev)
    (hex : Core.srcRun cf fuel args pr = some (env', tr, .ovf))
    (hroom : Core.pkS cf.w (Core.entryOff cf.w pr.params) pr.body ≤ Core.roomOf cf args) :
    ∃ mEnd, Exec (sphinx (Core.coreProg cf pr)) (Core.coreInit cf args pr)
      (tr ++ [Ev.flag "stack_overflow", Ev.flag "error"]) ⟨tntPc (Core.progLen cf.checked pr), mEnd⟩ :=
  let ⟨m, h, _⟩ := Core.core_correct cf args pr hw hB hSE hwf hlen fuel env' tr .ovf hex (fun _ => hck) (fun _ => hpkF) hroom
  ⟨m, h⟩

/-- non-vacuity: a recursion of depth 3 prints `A` at each level; with 6 stack words at `w = 2` the
third activation's frame does not fit: the source semantics says `AA` then overflow -/
example :
    let fbody : Core.S :=
      .putc 65 (.ifb (.cmp .lt (.var "n") (.lit 1)) (.retE (.lit 0)) .nil
        (.declCall "r" "f" [.bin .sub (.var "n") (.lit 1)] (.retE (.var "r"))))
    let pr : Core.CProg :=
      { params := [], funs := [{ name := "f", params := ["n"], body := fbody }],
        body := .declCall "y" "f" [.lit 3] .ret }
    Core.wfProg pr = true ∧
    (Core.srcRun ⟨2, 6, true⟩ 20 [] pr).map (fun r => (r.2.1, r.2.2)) = some ([Ev.out 65, Ev.out 65], .ovf) := by
  refine ⟨by decide, by decide +kernel⟩

/-- the digit buffer the compiler accounts for (`(8w-1)·30103/100000 + 1` bytes) is long enough for
the decimal form of every word value, at every word size (D4 cannot recur for any `w`) -/
theorem write_int_buffer_sufficient (w : Nat) (hw : 1 ≤ w) (v : Nat) (hv : v < 256 ^ w) :
    (digits (absW (256 ^ w) v)).length ≤ (8 * w - 1) * 30103 / 100000 + 1 :=
  digits_absW_le w hw v hv

end HidVerif.Props.C04
