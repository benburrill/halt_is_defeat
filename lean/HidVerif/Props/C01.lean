import HidVerif.Proofs.Terminal
import HidVerif.Proofs.Tables
import HidVerif.Proofs.SourceLaws
import HidVerif.Proofs.CoreMain
/-!
# C01 — compiled code computes what the source program says (sequential core)

Full statement (proved end to end for the sequential integer core, last section; validated beyond it): for every typed
program without time travel, every argument vector, every `w ∈ {2,3,4,8}` and sufficient stack,
`Exec (sphinx asm) init (tr ++ [flag win]) terminal` where `tr` is the trace of the reference
machine.  Proved for all programs: both machines are instances of one prophetic semantics whose driver
is sound (so the differential verdicts are statements about `Exec`), both are deterministic,
the operator tables agree with the reference operators for all values, and the library
routines the generated code calls are correct.
-/
namespace HidVerif.Props.C01
open HidVerif HidVerif.PSys HidVerif.Sphinx HidVerif.Gen

/-- the committed timeline of either machine is unique -/
theorem trace_unique {σ : Type} (sys : PSys σ Ev) {s tr₁ s₁ tr₂ s₂}
    (h₁ : Exec sys s tr₁ s₁) (h₂ : Exec sys s tr₂ s₂) :
    (∃ tr, Exec sys s₁ tr s₂ ∧ tr₂ = tr₁ ++ tr) ∨ (∃ tr, Exec sys s₂ tr s₁ ∧ tr₁ = tr₂ ++ tr) :=
  exec_det h₁ h₂

theorem arith_map_sound (E : Hid.Env) (a b : Nat) :
    ∀ pr ∈ arithMap, Hid.binArith E pr.1 a b = aluOp E.M (8 * E.w) pr.2 a b :=
  Sphinx.arith_map_sound E a b

theorem compare_map_sound (E : Hid.Env) (a b : Nat) :
    ∀ pr ∈ compareMap, (Hid.binArith E pr.1 a b = some 1 ↔ haltCond E.M pr.2 a b = true) ∧
      (Hid.binArith E pr.1 a b = some 1 ∨ Hid.binArith E pr.1 a b = some 0) :=
  Sphinx.compare_map_sound E a b

/-- reaching `all_is_win` is reaching the win state: `[flag win]`, then the terminal loop -/
theorem win_reach {p : Prog} {B : Nat} (hp : Placed p B) (m : Mem) :
    Reach (sphinx p) ⟨B + off_all_is_win, m⟩ [Ev.flag "win"] ⟨tntPc B, m⟩ := all_is_win_reach hp m

theorem vm_verdict_sound {p : Prog} {B : Nat} (hp : Placed p B) (fuel : Nat) (s₀ : St) :
    Sound (sphinx p) (fun s => s.pc == tntPc B) s₀
      ((sphinx p).run (fun s => s.pc == tntPc B) (fun _ => #[]) fuel s₀) := vm_sound hp fuel s₀

theorem interp_verdict_sound (E : Hid.Env) (fuel : Nat) (c₀ : Hid.Cfg) :
    Sound (Hid.machine E) Hid.isDone c₀ ((Hid.machine E).run Hid.isDone (fun _ => #[]) fuel c₀) :=
  Hid.interp_sound E fuel c₀

/-! ## The sequential integer core: semantic preservation, proved

`Core.coreProg cf pr` is a hand-written model of what `hidc` emits for programs of the core
sub-language (one `@is_you()`, `int` locals, `+ - * / %`, unary `+ -`, comparisons, `and or not`,
declarations, assignments, `write(int)`, `writeln`, character output, blocks, `if`, loops,
`return`, `break`/`continue`, `int` parameters of the entry point, user functions with calls and recursion, and — see C02 —
`try/undo` and `try/stop` with `!is_defeat()` / `!truth_is_defeat(…)` and defeat functions); the `core` correspondence suite checks on every run that it is *identical* to the
assembled output of the real compiler (every instruction, the const and state sections, the
entry point) and that `Core.exec` agrees with the reference machine.  For that model: -/

/-- **C01 on the core, for every program, every argument vector, word size `w ≥ 2`, stack size and
build mode**: if the source semantics runs the program (its `int` parameters bound to the
command-line arguments) to completion with output `tr` (possibly ending in a division by zero,
or in a callee's frame not fitting the stack, which
only checked builds define) and the stack holds the frame peak of the entry point, the emitted machine
performs exactly `tr` followed by the terminal flag(s) on its committed timeline, and ends in
the terminal loop. -/
theorem core_semantic_preservation (cf : Core.Config) (args : List Int) (pr : Core.CProg) (hw : 2 ≤ cf.w)
    (hB : Core.progLen cf.checked pr + stdlibLength < 256 ^ cf.w) (hSE : Core.F0 cf args + Core.regsLen cf.w pr < 256 ^ cf.w)
    (hwf : Core.wfProg pr = true) (hlen : args.length = pr.params.length)
    (fuel : Nat) (env' : Core.Env) (tr : List Ev) (res : Core.Res)
    (hex : Core.srcRun cf fuel args pr = some (env', tr, res))
    (hck : res = .div0 ∨ res = .ovf → cf.checked = true)
    (hpkF : res = .ovf → ∀ fd ∈ pr.funs, Core.pkS cf.w (Core.entryOff cf.w fd.params) fd.body < 256 ^ cf.w)
    (hroom : Core.pkS cf.w (Core.entryOff cf.w pr.params) pr.body ≤ Core.roomOf cf args) :
    ∃ mEnd, Exec (sphinx (Core.coreProg cf pr)) (Core.coreInit cf args pr) (tr ++ Core.terminalEvs res)
      ⟨tntPc (Core.progLen cf.checked pr), mEnd⟩ :=
  let ⟨m, h, _⟩ := Core.core_correct cf args pr hw hB hSE hwf hlen fuel env' tr res hex hck hpkF hroom
  ⟨m, h⟩

/-- expressions: the emitted code computes `evalE` (the building block, for every placement) -/
theorem core_expression_correct {p : Prog} {ck : Bool} {B dA : Nat} (lib : Placed p B) (Γ : Core.Gam) (env : Core.Env)
    (F D : Nat) (e : Core.E) (pc o rout : Nat) (keep : Bool) (m : Mem)
    (hpl : PlacedAt p pc (Core.cE (Core.cxOf p ck B dA) Γ pc o rout e keep).1)
    (hB : pc + (Core.cE (Core.cxOf p ck B dA) Γ pc o rout e keep).1.length ≤ B)
    (hr : rout = 2 * p.w ∨ rout = 3 * p.w) (fr : Core.Fr p m F D) (hv : Core.VarsOK p.w Γ env m F o)
    (hb : Core.boundE (Γ.map Prod.fst) e = true) (hpk : Core.pkE p.w o e keep ≤ D) (ho : p.w ≤ o)
    (v : Nat) (hev : Core.evalE (256 ^ p.w) (8 * p.w) env e = some v) :
    ∃ m', Reach (sphinx p) ⟨pc, m⟩ [] ⟨pc + (Core.cE (Core.cxOf p ck B dA) Γ pc o rout e keep).1.length, m'⟩ ∧
      Core.Keep p.w m m' (F - o) ∧ Core.valOf p.w m' F (Core.cE (Core.cxOf p ck B dA) Γ pc o rout e keep).2.1 = v :=
  let ⟨m', h1, h2, h3, _⟩ := (Core.cE_ok lib Γ env F D e pc o rout keep m hpl hB hr fr hv hb hpk ho).1 v hev
  ⟨m', h1, h2, h3⟩

/-- non-vacuity: a concrete core program with a function call satisfies every hypothesis of the
theorem (`int y = f(4); if (y == 12) putc 'Y' else putc 'N'; return;` with `f(a) = a * 3`) -/
example :
    let pr : Core.CProg :=
      { params := [], funs := [{ name := "f", params := ["a"], body := .retE (.bin .mul (.var "a") (.lit 3)) }],
        body := .declCall "y" "f" [.lit 4]
          (.ifb (.cmp .eq (.var "y") (.lit 12)) (.putc 89 .nil) (.putc 78 .nil) .ret) }
    let cf : Core.Config := ⟨2, 100, true⟩
    Core.wfProg pr = true ∧ Core.pkS 2 (Core.entryOff 2 pr.params) pr.body ≤ Core.roomOf cf [] ∧
    (Core.srcRun cf 10 [] pr).map (fun r => (r.2.1, r.2.2)) = some ([Ev.out 89], .returned) := by
  refine ⟨by decide, by decide, by decide +kernel⟩

end HidVerif.Props.C01
