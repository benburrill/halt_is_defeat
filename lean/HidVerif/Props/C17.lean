import HidVerif.Proofs.WriteArrays
/-!
# C17 — the write family prints every value correctly

The routine theorems are proved in `Proofs/`; the facts about the specification function `decimalW` at the end are
proved here.  The routines are `Gen.code_*`, the
instruction lists regenerated from `hidc/codegen/stdlib.py` on every run, inside an arbitrary
program `p` that contains the library at address `B` (`Placed p B`), for **every** word size
`w ≥ 2`, every word value and every caller state satisfying the calling convention.
-/
namespace HidVerif.Props.C17
open HidVerif HidVerif.PSys HidVerif.Sphinx HidVerif.Gen

/-- `write(int)`: from the routine's entry, with the argument in the caller-pushed slot
`[fp-2w]` and the return address in `[fp-w]`, the machine emits exactly the decimal reading of
the signed value (sign, no leading zeros, `-H` included) and arrives at the return address;
state memory is unchanged except the registers and the digit buffer `[fp-w-k, fp-w)` where `k`
is the number of digits.  `Reach` makes the statement independent of what the caller does
next (in particular of whether it later defeats). -/
theorem write_int_correct (p : Prog) (B : Nat) (hp : Placed p B)
    (m : Mem) (F v ra r0 r1 r2 : Nat)
    (hv : v < 256 ^ p.w) (hFM : F < 256 ^ p.w) (hFsz : F ≤ m.size)
    (hroom : 5 * p.w + (digits (absW (256 ^ p.w) v)).length + p.w ≤ F) (h7 : 7 * p.w ≤ F)
    (hr : Regs p.w m F r0 r1 r2)
    (harg : m.readLE (F - 2 * p.w) p.w = v) (hra : m.readLE (F - p.w) p.w = ra) :
    ∃ m', Reach (sphinx p) ⟨B + off_write_int, m⟩ (outs (decimalW (256 ^ p.w) v)) ⟨ra, m'⟩ ∧
      Same p.w m m' (F - p.w - (digits (absW (256 ^ p.w) v)).length) (F - p.w) :=
  write_int_spec p B hp m F v ra r0 r1 r2 hv hFM hFsz hroom h7 hr harg hra

/-- the specification function is the usual decimal notation (spot values, as a sanity check of
the *specification*, not of the routine) -/
example : decimalW (256 ^ 2) 0 = [48] ∧ decimalW (256 ^ 2) 12345 = [49, 50, 51, 52, 53]
    ∧ decimalW (256 ^ 2) 65535 = [45, 49] ∧ decimalW (256 ^ 2) 32768 = [45, 51, 50, 55, 54, 56] := by
  refine ⟨?_, ?_, ?_, ?_⟩ <;> simp [decimalW, digits]

/-- D4 in theorem form: the digit buffer is `k` bytes long and only `w` bytes below `fp - w`
belong to the frame the caller reserved for the call (`RA` + one word argument), so for values
with more than `w` digits the routine writes below its own frame. -/
theorem write_int_buffer_exceeds_frame : ∃ v, v < 256 ^ 2 ∧ (digits (absW (256 ^ 2) v)).length > 2 :=
  ⟨12345, by decide, by simp [absW, digits]⟩

/-- `write(string)`: with the pointer to the length-prefixed constant in `[fp-2w]`, the routine
emits exactly the `k` bytes that follow the length word — for every length `0 ≤ k < 2^(8w-1)`,
every byte content — returns to the caller, and changes nothing in state memory outside the
register block (`Same … 0 0`: every byte at an address `≥ 5w` is unchanged, sizes equal). -/
theorem write_string_correct (p : Prog) (B : Nat) (hp : Placed p B)
    (m : Mem) (F s k ra r0 r1 r2 : Nat)
    (hk : k < 256 ^ p.w / 2) (hs : s + p.w + k < 256 ^ p.w) (hssz : s + p.w + k ≤ p.const.size)
    (hF : 6 * p.w ≤ F) (hFM : F < 256 ^ p.w) (hFsz : F ≤ m.size)
    (hr : Regs p.w m F r0 r1 r2)
    (hptr : m.readLE (F - 2 * p.w) p.w = s) (hlen : p.const.readLE s p.w = k)
    (hra : m.readLE (F - p.w) p.w = ra) :
    ∃ m', Reach (sphinx p) ⟨B + off_write_string, m⟩ (outs (bytesAt p.const (s + p.w) k)) ⟨ra, m'⟩ ∧
      Same p.w m m' 0 0 :=
  write_string_spec p B hp m F s k ra r0 r1 r2 hk hs hssz hF hFM hFsz hr hptr hlen hra

/-- `write(const byte[])`: address into the const section in `[fp-3w]`, length in `[fp-2w]`. -/
theorem write_const_byte_array_correct (p : Prog) (B : Nat) (hp : Placed p B)
    (m : Mem) (F a k ra r0 r1 r2 : Nat)
    (hk : k < 256 ^ p.w / 2) (ha : a + k < 256 ^ p.w) (hasz : a + k ≤ p.const.size)
    (hF : 6 * p.w ≤ F) (hFM : F < 256 ^ p.w) (hFsz : F ≤ m.size)
    (hr : Regs p.w m F r0 r1 r2)
    (haddr : m.readLE (F - 3 * p.w) p.w = a) (hlen : m.readLE (F - 2 * p.w) p.w = k)
    (hra : m.readLE (F - p.w) p.w = ra) :
    ∃ m', Reach (sphinx p) ⟨B + off_write_const_byte_array, m⟩ (outs (bytesAt p.const a k)) ⟨ra, m'⟩ ∧
      Same p.w m m' 0 0 :=
  write_const_byte_array_spec p B hp m F a k ra r0 r1 r2 hk ha hasz hF hFM hFsz hr haddr hlen hra

/-- `write(byte[])` for an array in the state section (stack or global). The bytes printed are
those of the *initial* memory: the routine does not disturb the array while printing it. -/
theorem write_state_byte_array_correct (p : Prog) (B : Nat) (hp : Placed p B)
    (m : Mem) (F a k ra r0 r1 r2 : Nat)
    (hk : k < 256 ^ p.w / 2) (ha : a + k < 256 ^ p.w) (h5 : 5 * p.w ≤ a) (hasz : a + k ≤ m.size)
    (hF : 6 * p.w ≤ F) (hFM : F < 256 ^ p.w) (hFsz : F ≤ m.size)
    (hr : Regs p.w m F r0 r1 r2)
    (haddr : m.readLE (F - 3 * p.w) p.w = a) (hlen : m.readLE (F - 2 * p.w) p.w = k)
    (hra : m.readLE (F - p.w) p.w = ra) :
    ∃ m', Reach (sphinx p) ⟨B + off_write_state_byte_array, m⟩ (outs (bytesAt m a k)) ⟨ra, m'⟩ ∧
      Same p.w m m' 0 0 :=
  write_state_byte_array_spec p B hp m F a k ra r0 r1 r2 hk ha h5 hasz hF hFM hFsz hr haddr hlen hra

/-- `write(bool)`: prints `false` for the byte 0 and `true` for any other byte. -/
theorem write_bool_correct (p : Prog) (B : Nat) (hp : Placed p B)
    (m : Mem) (F ra r0 r1 r2 : Nat)
    (hF : 6 * p.w ≤ F) (hFM : F < 256 ^ p.w) (hFsz : F ≤ m.size)
    (hr : Regs p.w m F r0 r1 r2) (hra : m.readLE (F - p.w) p.w = ra) :
    ∃ m', Reach (sphinx p) ⟨B + off_write_bool, m⟩ (outs (boolText (m.rd (F - p.w - 1)))) ⟨ra, m'⟩ ∧
      Same p.w m m' 0 0 :=
  write_bool_spec p B hp m F ra r0 r1 r2 hF hFM hFsz hr hra

/-- the specification text really is `false` / `true` -/
example : (boolText 0).map Char.ofNat = "false".toList ∧ (boolText 1).map Char.ofNat = "true".toList := by decide

/-- the number of bytes emitted is exactly the length (no terminator, no padding) -/
theorem bytesAt_length (m : Mem) (a k : Nat) : (bytesAt m a k).length = k := Sphinx.bytesAt_length m a k

/-- `write(byte)` and the newline of `writeln` are lowered to a single `yield` (checked by the
conformance pass on every compiled program); one `yield x` emits exactly the low byte of `x`
and changes nothing. -/
theorem yield_exact (p : Prog) (pc : Nat) (m : Mem) (a : Arg) (x : Nat)
    (hc : p.code[pc]? = some (.yld a)) (ha : evalArg p ⟨pc, m⟩ a = some x) :
    Reach (sphinx p) ⟨pc, m⟩ [Ev.out (x % 256)] ⟨pc + 1, m⟩ := by
  simpa [evl] using Reach.of_next (sys := sphinx p) (step_yld (m := m) hc ha)

/-! ## The specification function itself: `decimalW` is decimal notation, for every word

`write_int_correct` says the routine emits `decimalW M v`. The spot values above check the specification on four words;
the theorems below check it on all of them: what is printed consists of digits (and a leading `-`), has no leading zero,
and read back as a number gives the word that was printed - so the specification cannot be a function that is wrong
outside the sampled values, and distinct words print distinct texts. -/
/-- reading decimal text back: the value of a digit string -/
def valOf (ds : List Nat) : Nat := ds.foldl (fun a d => a * 10 + (d - 48)) 0
/-- reading the output of `write(int)` back as a word: a leading `-` negates modulo `M` -/
def readBack (M : Nat) : List Nat → Nat
  | 45 :: ds => (M - valOf ds) % M
  | ds => valOf ds

theorem valOf_append (ds : List Nat) (d : Nat) : valOf (ds ++ [d]) = valOf ds * 10 + (d - 48) := by
  simp [valOf, List.foldl_append]

/-- the specification function produces digits only -/
theorem digits_range (n : Nat) : ∀ d ∈ digits n, 48 ≤ d ∧ d ≤ 57 := by
  induction n using Nat.strongRecOn with
  | _ n ih =>
    by_cases h : n < 10
    · rw [digits_lt n h]; intro d hd; simp at hd; omega
    · rw [digits_ge n h]; intro d hd
      rcases List.mem_append.mp hd with hd | hd
      · exact ih (n / 10) (by omega) d hd
      · simp at hd; omega

/-- ... and it is decimal notation: read back, the digits give the number - for every number -/
theorem valOf_digits (n : Nat) : valOf (digits n) = n := by
  induction n using Nat.strongRecOn with
  | _ n ih =>
    by_cases h : n < 10
    · rw [digits_lt n h]; simp [valOf]
    · rw [digits_ge n h, valOf_append, ih (n / 10) (by omega)]; omega

/-- no leading zero except for zero itself -/
theorem digits_head (n : Nat) : (digits n).head? = some 48 → n = 0 := by
  induction n using Nat.strongRecOn with
  | _ n ih =>
    by_cases h : n < 10
    · rw [digits_lt n h]; simp
    · rw [digits_ge n h]
      have hp := digits_pos (n / 10)
      cases hd : digits (n / 10) with
      | nil => simp [hd] at hp
      | cons x xs =>
        intro hh; simp at hh
        have := ih (n / 10) (by omega) (by simp [hd, hh])
        omega

/-- **what `write(int)` prints determines the word**: for every even modulus and every word `v`, reading the
specified text back gives `v` - so two different values never print the same text, the sign is printed exactly for
the words `≥ M/2`, and the most negative value (whose absolute value does not fit) is covered too -/
theorem decimalW_reads_back (M v : Nat) (hM : M % 2 = 0) (hv : v < M) : readBack M (decimalW M v) = v := by
  unfold decimalW
  split
  · have hr := digits_range v
    cases hd : digits v with
    | nil => have := digits_pos v; simp [hd] at this
    | cons x xs =>
      have hx := hr x (by simp [hd])
      have : x ≠ 45 := by omega
      unfold readBack
      split
      · next h => simp at h; omega
      · rw [← hd, valOf_digits]
  · simp only [readBack, valOf_digits]
    have : M - (M - v) = v := by omega
    rw [this, Nat.mod_eq_of_lt hv]

theorem decimalW_injective (M a b : Nat) (hM : M % 2 = 0) (ha : a < M) (hb : b < M)
    (h : decimalW M a = decimalW M b) : a = b := by
  rw [← decimalW_reads_back M a hM ha, ← decimalW_reads_back M b hM hb, h]

example : readBack (256 ^ 2) (decimalW (256 ^ 2) 32768) = 32768 ∧ readBack (256 ^ 2) [45, 49] = 65535 := by
  refine ⟨decimalW_reads_back _ _ (by decide) (by decide), by decide⟩

end HidVerif.Props.C17
