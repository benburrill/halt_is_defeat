import HidVerif.Proofs.SourceLaws
import HidVerif.Proofs.Terminal
import HidVerif.Proofs.CoreMain
/-!
# C02 — try/undo, try/stop, preempt and `??` follow their time-travel semantics

The construct laws are theorems about the reference semantics `Hid.machine` (they say what the
semantics *is*); for the sequential integer core the compiled code is proved to realise them
(`core_try_undo_correct`, `core_try_stop_correct`), beyond it it is compared with the reference machine by the
differential searcher; the target-side idioms the generator uses are proved in `Proofs/Templates.lean`.
-/
namespace HidVerif.Props.C02
open HidVerif HidVerif.PSys HidVerif.Hid

theorem undo_law (E : Env) (c : Cfg) (body h : Stmt) (hc : c.ctl = .exec (.tryb body .undo h)) :
    (Defeats E (undoBody c body) → CStep (machine E) c none (undoHandler c h)) ∧
    (¬ Defeats E (undoBody c body) → CStep (machine E) c none (undoBody c body)) :=
  Hid.undo_law E c body h hc

theorem preempt_law (E : Env) (c : Cfg) (body : Stmt) (hc : c.ctl = .exec (.preempt body)) (hm : c.mode = none) :
    (Defeats E { c with ctl := .ret .unit } → CStep (machine E) c none { c with ctl := .exec body }) ∧
    (¬ Defeats E { c with ctl := .ret .unit } → CStep (machine E) c none { c with ctl := .ret .unit }) :=
  Hid.preempt_law E c body hc hm

theorem preempt_forced (E : Env) (c : Cfg) (body : Stmt) (sn : Snap) (hc : c.ctl = .exec (.preempt body))
    (hm : c.mode = some sn) : CStep (machine E) c none { c with ctl := .exec body } :=
  Hid.preempt_forced E c body sn hc hm

theorem stop_law (E : Env) (c : Cfg) (body h : Stmt) (hc : c.ctl = .exec (.tryb body .stop h)) :
    (Defeats E (stopReal c body) → CStep (machine E) c none (stopCaught c body h)) ∧
    (¬ Defeats E (stopReal c body) → CStep (machine E) c none (stopReal c body)) :=
  Hid.stop_law E c body h hc

/-- the handler is entered with the try's environment and continuation and with defeat
"behaving normally again" (`mode := none`) — the conjunct that D2 violated in the compiled code -/
theorem defeat_caught (c : Cfg) (sn : Snap) (hm : c.mode = some sn) :
    doDefeat c = .next { c with ctl := .exec sn.handler, env := sn.env, kont := sn.kont, mode := none } none :=
  Hid.defeat_caught c sn hm

theorem spec_law (E : Env) (c : Cfg) (l : Expr) (v : Val) (k : List Frame) (hc : c.ctl = .ret v)
    (hk : c.kont = .specR l :: k) :
    (Defeats E { c with ctl := .eval l, kont := .specL v :: k } →
        CStep (machine E) c none { c with ctl := .ret v, kont := k }) ∧
    (¬ Defeats E { c with ctl := .eval l, kont := .specL v :: k } →
        CStep (machine E) c none { c with ctl := .eval l, kont := .specL v :: k }) :=
  Hid.spec_law E c l v k hc hk

theorem spec_compare (E : Env) (c : Cfg) (a b : Nat) (k : List Frame) (hc : c.ctl = .ret (.num a))
    (hk : c.kont = .specL (.num b) :: k) :
    (machine E).step c = if a = b then .halt else .next { c with ctl := .ret (.num a), kont := k } none :=
  Hid.spec_compare E c a b k hc hk

/-- verdicts of the reference machine are statements about its committed timeline -/
theorem interp_verdict_sound (E : Env) (fuel : Nat) (c₀ : Cfg) :
    Sound (machine E) isDone c₀ ((machine E).run isDone (fun _ => #[]) fuel c₀) := interp_sound E fuel c₀

/-- non-vacuity: a configuration about to execute a try/undo exists and satisfies the
hypothesis of `undo_law` -/
example : ({ ctl := .exec (.tryb (.block []) .undo (.block [])) } : Cfg).ctl =
    .exec (.tryb (.block []) .undo (.block [])) := rfl

/-! ## try/undo in compiled code: proved for the core

The core sub-language (see `C01`) includes `try { … } undo { … }` in the you function, with
`!is_defeat()` and `!truth_is_defeat(c)` inside the try body.  Its source semantics `Core.exec`
says what the language says: -/

/-- a try body that would be defeated is never run — none of its output, none of its assignments —
and the handler runs from the state before the `try` -/
theorem undo_source_law (M n w f room o : Nat) (fns : List Core.FDecl) (env env1 : Core.Env) (tr1 : List Ev) (body handler k : Core.S)
    (hb : Core.exec M n fns w f room o env body = some (env1, tr1, .defeat)) :
    Core.exec M n fns w (f + 1) room o env (.tryUndo body handler k) =
      (do let (env2, tr2, r2) ← Core.exec M n fns w f room o env handler
          if r2 = .norm then
            let (env3, tr3, r3) ← Core.exec M n fns w f room o env2 k
            pure (env3, tr2 ++ tr3, r3)
          else pure (env2, tr2, r2)) := by
  simp [Core.exec, hb]

/-- a try body that completes is committed, and the handler is skipped -/
theorem try_ok_source_law (M n w f room o : Nat) (fns : List Core.FDecl) (env env1 : Core.Env) (tr1 : List Ev) (body handler k : Core.S)
    (hb : Core.exec M n fns w f room o env body = some (env1, tr1, .norm)) :
    Core.exec M n fns w (f + 1) room o env (.tryUndo body handler k) =
      (do let (env3, tr3, r3) ← Core.exec M n fns w f room o env1 k
          pure (env3, tr1 ++ tr3, r3)) := by
  simp [Core.exec, hb]

/-- **C02 (try/undo) on the core**: the emitted code — one Turing jump over the body, conditional
halts for the defeat calls — realises exactly that semantics on the committed timeline, for
every core program (any nesting of blocks, conditionals and loops inside and around the `try`),
every argument vector, word size, stack size and build mode.  (`Core.coreProg` is checked on
every run to be identical to the real compiler's output, and `Core.exec` to agree with the
reference machine.) -/
theorem core_try_undo_correct (cf : Core.Config) (args : List Int) (pr : Core.CProg) (hw : 2 ≤ cf.w)
    (hB : Core.progLen cf.checked pr + Gen.stdlibLength < 256 ^ cf.w) (hSE : Core.F0 cf args + Core.regsLen cf.w pr < 256 ^ cf.w)
    (hwf : Core.wfProg pr = true) (hlen : args.length = pr.params.length)
    (fuel : Nat) (env' : Core.Env) (tr : List Ev) (res : Core.Res)
    (hex : Core.srcRun cf fuel args pr = some (env', tr, res))
    (hck : res = .div0 ∨ res = .ovf → cf.checked = true)
    (hpkF : res = .ovf → ∀ fd ∈ pr.funs, Core.pkS cf.w (Core.entryOff cf.w fd.params) fd.body < 256 ^ cf.w)
    (hroom : Core.pkS cf.w (Core.entryOff cf.w pr.params) pr.body ≤ Core.roomOf cf args) :
    ∃ mEnd, Exec (Sphinx.sphinx (Core.coreProg cf pr)) (Core.coreInit cf args pr) (tr ++ Core.terminalEvs res)
        ⟨Sphinx.tntPc (Core.progLen cf.checked pr), mEnd⟩ ∧
      ¬ Halts (Sphinx.sphinx (Core.coreProg cf pr)) (Core.coreInit cf args pr) :=
  Core.core_correct cf args pr hw hB hSE hwf hlen fuel env' tr res hex hck hpkF hroom

/-- non-vacuity: a program whose try body prints `A`, assigns, is then defeated and undone: the
committed output is `U` (handler) and `Y` (the assignment did not happen) -/
example :
    let pr : Core.CProg :=
      { params := [], funs := [],
        body := .decl "x" (.lit 5)
          (.tryUndo (.putc 65 (.assign "x" (.lit 9) (.defeatIf (.cmp .gt (.var "x") (.lit 5)) .nil)))
                    (.putc 85 .nil)
            (.ifb (.cmp .eq (.var "x") (.lit 5)) (.putc 89 .nil) (.putc 78 .nil) .ret)) }
    Core.wfProg pr = true ∧
    (Core.srcRun ⟨2, 100, true⟩ 12 [] pr).map (fun r => (r.2.1, r.2.2)) =
      some ([Ev.out 85, Ev.out 89], .returned) := by
  refine ⟨by decide, by decide +kernel⟩

/-! ## try/stop in compiled code: proved for the core

`try { … } stop { … }` keeps what the body did up to the point of defeat and continues in the handler
from there.  In the source semantics: -/

/-- a try body that is defeated keeps its output and its assignments up to the defeat call, and the
handler goes on from that state (`%ap` is the frame slot in which the compiler saves `ap`) -/
theorem stop_source_law (M n w f room o : Nat) (fns : List Core.FDecl) (env env1 : Core.Env) (tr1 : List Ev) (body handler k : Core.S)
    (hb : Core.exec M n fns w f room (o + w) (Core.upd env "%ap" (5 * w)) body = some (env1, tr1, .defeat))
    (hap : env1 "%ap" = 5 * w) :
    Core.exec M n fns w (f + 1) room o env (.tryStop body handler k) =
      (do let (env2, tr2, r2) ← Core.exec M n fns w f room o env1 handler
          if r2 = .norm then
            let (env3, tr3, r3) ← Core.exec M n fns w f room o env2 k
            pure (env3, tr1 ++ tr2 ++ tr3, r3)
          else pure (env2, tr1 ++ tr2, r2)) := by
  simp [Core.exec, hb, hap]

/-- a try body that completes is committed, and the handler is skipped -/
theorem stop_ok_source_law (M n w f room o : Nat) (fns : List Core.FDecl) (env env1 : Core.Env) (tr1 : List Ev) (body handler k : Core.S)
    (hb : Core.exec M n fns w f room (o + w) (Core.upd env "%ap" (5 * w)) body = some (env1, tr1, .norm)) :
    Core.exec M n fns w (f + 1) room o env (.tryStop body handler k) =
      (do let (env3, tr3, r3) ← Core.exec M n fns w f room o env1 k
          pure (env3, tr1 ++ tr3, r3)) := by
  simp [Core.exec, hb]

/-- **C02 (try/stop) on the core**: the emitted code — `ap` and `fp` saved, the handler address stored
in the word `defeat`, one Turing jump that asks whether the body would halt with `defeat = halt`, and
`j [defeat]; halt` for every `!is_defeat()` and `j [defeat]` before every conditional halt of a
`!truth_is_defeat(c)` inside the body — realises exactly that semantics on the
committed timeline: when the body is defeated its effects up to the defeat call stay and the handler
runs in the restored frame; when it is not, the handler is skipped.  For every core program with
`try/stop` blocks (any nesting of blocks, conditionals, loops and calls inside the body and around
the block), every argument vector, word size, stack size and build mode.  This is `core_correct` for
programs with `hasStop`; the case of the block itself is `Core.tryStop_ok`. -/
theorem core_try_stop_correct (cf : Core.Config) (args : List Int) (pr : Core.CProg) (hw : 2 ≤ cf.w)
    (_hstop : Core.hasStop pr.body = true)
    (hB : Core.progLen cf.checked pr + Gen.stdlibLength < 256 ^ cf.w) (hSE : Core.F0 cf args + 2 * cf.w < 256 ^ cf.w)
    (hwf : Core.wfProg pr = true) (hlen : args.length = pr.params.length)
    (fuel : Nat) (env' : Core.Env) (tr : List Ev) (res : Core.Res)
    (hex : Core.srcRun cf fuel args pr = some (env', tr, res))
    (hck : res = .div0 ∨ res = .ovf → cf.checked = true)
    (hpkF : res = .ovf → ∀ fd ∈ pr.funs, Core.pkS cf.w (Core.entryOff cf.w fd.params) fd.body < 256 ^ cf.w)
    (hroom : Core.pkS cf.w (Core.entryOff cf.w pr.params) pr.body ≤ Core.roomOf cf args) :
    ∃ mEnd, Exec (Sphinx.sphinx (Core.coreProg cf pr)) (Core.coreInit cf args pr) (tr ++ Core.terminalEvs res)
        ⟨Sphinx.tntPc (Core.progLen cf.checked pr), mEnd⟩ ∧
      ¬ Halts (Sphinx.sphinx (Core.coreProg cf pr)) (Core.coreInit cf args pr) :=
  Core.core_correct cf args pr hw hB (by have : Core.needsVD pr = true := by simp [Core.needsVD, _hstop]
                                         simp only [Core.regsLen, this, if_true]; exact hSE) hwf hlen fuel env' tr res hex hck hpkF hroom

/-- non-vacuity: the body prints `A`, sets `x := 9`, and is defeated when `x > 5`: the committed output
is `A` (kept), `S` (handler), `N` (the assignment is kept: `x` is 9, not 5); with `x := 5` instead the
body completes: `A`, then `Y` -/
example :
    let pr (v : Int) : Core.CProg :=
      { params := [], funs := [],
        body := .decl "x" (.lit 5)
          (.tryStop (.putc 65 (.assign "x" (.lit v) (.ifb (.cmp .gt (.var "x") (.lit 5)) (.defeat .nil) .nil .nil)))
                    (.putc 83 .nil)
            (.ifb (.cmp .eq (.var "x") (.lit 5)) (.putc 89 .nil) (.putc 78 .nil) .ret)) }
    Core.wfProg (pr 9) = true ∧ Core.hasStop (pr 9).body = true ∧
    (Core.srcRun ⟨2, 100, true⟩ 12 [] (pr 9)).map (fun r => (r.2.1, r.2.2)) =
      some ([Ev.out 65, Ev.out 83, Ev.out 78], .returned) ∧
    (Core.srcRun ⟨2, 100, true⟩ 12 [] (pr 5)).map (fun r => (r.2.1, r.2.2)) =
      some ([Ev.out 65, Ev.out 89], .returned) := by
  refine ⟨by decide, by decide, by decide +kernel, by decide +kernel⟩

/-- the same with `!truth_is_defeat(x > 5 or x == 0)` in the body (conditional halts behind `j [defeat]`) -/
example :
    let pr (v : Int) : Core.CProg :=
      { params := [], funs := [],
        body := .decl "x" (.lit 5)
          (.tryStop (.putc 65 (.assign "x" (.lit v)
                      (.defeatIf (.or (.cmp .gt (.var "x") (.lit 5)) (.cmp .eq (.var "x") (.lit 0))) (.putc 66 .nil))))
                    (.putc 83 .nil)
            (.ifb (.cmp .eq (.var "x") (.lit 5)) (.putc 89 .nil) (.putc 78 .nil) .ret)) }
    Core.wfProg (pr 9) = true ∧
    (Core.srcRun ⟨2, 100, true⟩ 12 [] (pr 9)).map (fun r => (r.2.1, r.2.2)) =
      some ([Ev.out 65, Ev.out 83, Ev.out 78], .returned) ∧
    (Core.srcRun ⟨2, 100, true⟩ 12 [] (pr 0)).map (fun r => (r.2.1, r.2.2)) =
      some ([Ev.out 65, Ev.out 83, Ev.out 78], .returned) ∧
    (Core.srcRun ⟨2, 100, true⟩ 12 [] (pr 5)).map (fun r => (r.2.1, r.2.2)) =
      some ([Ev.out 65, Ev.out 66, Ev.out 89], .returned) := by
  refine ⟨by decide, by decide +kernel, by decide +kernel, by decide +kernel⟩

/-- the same through a defeat function: `!chk(x)` is `{ !truth_is_defeat(x > 5); write('c'); }`, called from the body of the
`try/stop`.  The defeat happens two frames down (the handler gets `fp` back from `try_fp`, then `ap` from the frame slot);
`core_try_stop_correct` covers such programs, the case is `Core.call_ok` with the callee in the caller's situation -/
example :
    let pr (v : Int) : Core.CProg :=
      { params := [],
        funs := [{ name := "!chk", params := ["x"], dfn := true,
                   body := .defeatIf (.cmp .gt (.var "x") (.lit 5)) (.putc 99 .ret) }],
        body := .decl "x" (.lit 5)
          (.tryStop (.putc 65 (.assign "x" (.lit v) (.callS "!chk" [.var "x"] (.putc 66 .nil))))
                    (.putc 83 .nil)
            (.ifb (.cmp .eq (.var "x") (.lit 5)) (.putc 89 .nil) (.putc 78 .nil) .ret)) }
    Core.wfProg (pr 9) = true ∧
    (Core.srcRun ⟨2, 100, true⟩ 12 [] (pr 9)).map (fun r => (r.2.1, r.2.2)) =
      some ([Ev.out 65, Ev.out 83, Ev.out 78], .returned) ∧
    (Core.srcRun ⟨2, 100, true⟩ 12 [] (pr 5)).map (fun r => (r.2.1, r.2.2)) =
      some ([Ev.out 65, Ev.out 99, Ev.out 66, Ev.out 89], .returned) := by
  refine ⟨by decide, by decide +kernel, by decide +kernel⟩

/-- … and from the body of a `try/undo` (`try { !chk(x); … } undo { … }`, the commonest shape in real programs): the
defeat function still goes through the word `defeat`, which holds the address of a `halt` there; the machine
halts in the body's world exactly when the source body is defeated, and the handler runs from the state before
the `try`.  (`core_try_undo_correct` covers it; the case is `Core.call_ok` in the situation `stop dA halt`.) -/
example :
    let pr (v : Int) : Core.CProg :=
      { params := [],
        funs := [{ name := "!chk", params := ["x"], dfn := true,
                   body := .defeatIf (.cmp .gt (.var "x") (.lit 5)) (.putc 99 .ret) }],
        body := .decl "x" (.lit 5)
          (.tryUndo (.putc 65 (.assign "x" (.lit v) (.callS "!chk" [.var "x"] (.putc 66 .nil))))
                    (.putc 85 .nil)
            (.ifb (.cmp .eq (.var "x") (.lit 5)) (.putc 89 .nil) (.putc 78 .nil) .ret)) }
    Core.wfProg (pr 9) = true ∧ Core.needsVD (pr 9) = true ∧
    (Core.srcRun ⟨2, 100, true⟩ 12 [] (pr 9)).map (fun r => (r.2.1, r.2.2)) =
      some ([Ev.out 85, Ev.out 89], .returned) ∧
    (Core.srcRun ⟨2, 100, true⟩ 12 [] (pr 5)).map (fun r => (r.2.1, r.2.2)) =
      some ([Ev.out 65, Ev.out 99, Ev.out 66, Ev.out 89], .returned) := by
  refine ⟨by decide, by decide, by decide +kernel, by decide +kernel⟩

/-- … and a defeat function that returns a value (`int y = !val(x);` inside the body of a `try/stop`): the value comes
back through the callee's frame slot exactly as for ordinary functions when no defeat is reached -/
example :
    let pr (v : Int) : Core.CProg :=
      { params := [],
        funs := [{ name := "!val", params := ["x"], dfn := true,
                   body := .defeatIf (.cmp .gt (.var "x") (.lit 5)) (.retE (.bin .add (.var "x") (.lit 60))) }],
        body := .decl "x" (.lit v)
          (.tryStop (.putc 65 (.declCall "y" "!val" [.var "x"] (.putc 66 (.assign "x" (.var "y") .nil))))
                    (.putc 83 .nil)
            (.ifb (.cmp .eq (.var "x") (.lit 65)) (.putc 89 .nil) (.putc 78 .nil) .ret)) }
    Core.wfProg (pr 9) = true ∧
    (Core.srcRun ⟨2, 100, true⟩ 12 [] (pr 9)).map (fun r => (r.2.1, r.2.2)) =
      some ([Ev.out 65, Ev.out 83, Ev.out 78], .returned) ∧
    (Core.srcRun ⟨2, 100, true⟩ 12 [] (pr 5)).map (fun r => (r.2.1, r.2.2)) =
      some ([Ev.out 65, Ev.out 66, Ev.out 89], .returned) := by
  refine ⟨by decide, by decide +kernel, by decide +kernel⟩

end HidVerif.Props.C02
