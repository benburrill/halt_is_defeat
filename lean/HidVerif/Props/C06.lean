import HidVerif.Hid.Parser
import HidVerif.Proofs.ParseSound
/-!
# C06 — flavour and context rules are enforced on every program

The context discipline of the parser is carried by a flag set (`BlockContext`) threaded through
the grammar.  `Gen.Grammar` holds the context expressions transcribed from grammar.py and the
values Python's `IntFlag` arithmetic gives them; the theorems below show (i) the transcription
agrees with Python on every valid context value, (ii) what each derived context permits equals
the documented permission table.  The parser model (`Hid/Parser.lean`) uses exactly these
definitions and is tied to the implementation by the `parse` suite (trees, error class and
position).  Soundness of whole parses is proved (`accepted_programs_respect_the_rules`, by
induction on the fuel of every parser function, then on the derivation of the context
discipline); completeness ("every program that respects the rules is accepted") is validated by
exhaustive placement enumeration against an independent permission table.
-/
namespace HidVerif.Props.C06
open HidVerif.Gen HidVerif.Hid.Parse HidVerif.Hid.Lex

/-- (i) the transcribed context expressions agree with Python's evaluation for all 28 valid values -/
theorem ctx_algebra : ∀ row ∈ ctxTable, ctxExprs.map (fun f => f row.1) = row.2 := by decide +kernel

/-- the context tests of the grammar are exactly these (a removed or added test changes the list) -/
theorem ctx_tests_pinned : ctxTests =
    [("ps_func_call", ["FUNC"]), ("ps_expr", ["YOU"]), ("ps_stmt", ["LOOP", "LOOP"]), ("ps_block", ["YOU", "DEFEAT"])] := by decide +kernel

theorem func_contexts_pinned : funcContexts = [3, 5, 1] ∧ blockContext =
    [("NONE", 0), ("FUNC", 1), ("YOU", 3), ("DEFEAT", 5), ("TRY", 13), ("LOOP", 16)] := by decide +kernel

/-- contexts that can occur: reachable from the three function contexts and the global context -/
def reachable : List Nat := [0, 1, 3, 5, 13, 16, 17, 19, 21, 29]

theorem reachable_closed : ∀ c ∈ reachable, ∀ f ∈ ctxExprs, f c ∈ reachable := by decide +kernel
theorem function_contexts_reachable : ∀ c ∈ funcContexts, c ∈ reachable := by decide +kernel

/-- (ii) you-function bodies: ordinary and you calls, try, `??`; no defeat calls, no preempt -/
theorem you_permissions : ∀ c ∈ [3, 19],
    flavorAllowed c .none = true ∧ flavorAllowed c .you = true ∧ flavorAllowed c .defeat = false ∧
    has c "YOU" = true ∧ has c "DEFEAT" = false := by decide +kernel

/-- try bodies (entered only from a you context): ordinary and defeat calls, preempt; no
you calls, no nested try, no `??`; the loop flag is kept -/
theorem try_body_permissions : ∀ c ∈ [3, 19],
    flavorAllowed (ctxTryBody c) .none = true ∧ flavorAllowed (ctxTryBody c) .defeat = true ∧
    flavorAllowed (ctxTryBody c) .you = false ∧ has (ctxTryBody c) "YOU" = false ∧
    has (ctxTryBody c) "DEFEAT" = true ∧ has (ctxTryBody c) "LOOP" = has c "LOOP" := by decide +kernel

/-- handlers are parsed in the context of the `try` statement itself -/
theorem handler_context : ∀ c ∈ reachable, ctxHandler c = c := by decide +kernel

/-- operands of `??`: ordinary calls only -/
theorem spec_permissions : ∀ c ∈ [3, 19],
    flavorAllowed (ctxSpec c) .none = true ∧ flavorAllowed (ctxSpec c) .you = false ∧
    flavorAllowed (ctxSpec c) .defeat = false ∧ has (ctxSpec c) "YOU" = false ∧ has (ctxSpec c) "DEFEAT" = false := by decide +kernel

/-- defeat functions: ordinary and defeat calls, preempt; no you calls, try or `??` -/
theorem defeat_permissions : ∀ c ∈ [5, 21, 13, 29],
    flavorAllowed c .none = true ∧ flavorAllowed c .defeat = true ∧ flavorAllowed c .you = false ∧
    has c "YOU" = false ∧ has c "DEFEAT" = true := by decide +kernel

/-- ordinary functions: ordinary calls only -/
theorem ordinary_permissions : ∀ c ∈ [1, 17],
    flavorAllowed c .none = true ∧ flavorAllowed c .defeat = false ∧ flavorAllowed c .you = false ∧
    has c "YOU" = false ∧ has c "DEFEAT" = false := by decide +kernel

/-- global initialisers: no calls at all -/
theorem global_permissions : has 0 "FUNC" = false ∧ has 0 "YOU" = false ∧ has 0 "DEFEAT" = false ∧ has 0 "LOOP" = false := by decide +kernel

/-- break/continue: the loop flag is set exactly by loop bodies and kept by every nested block -/
theorem loop_flag : ∀ c ∈ reachable, has (ctxWhileBody c) "LOOP" = true ∧ has (ctxForBody c) "LOOP" = true ∧
    has (ctxIfBody c) "LOOP" = has c "LOOP" ∧ has (ctxPreemptBody c) "LOOP" = has c "LOOP" := by decide +kernel

/-! ## Soundness of whole parses, for every program -/

/-- `Proofs/ParseSound.lean` uses the same list of reachable contexts -/
theorem reachable_same : reachableCtx = reachable := rfl

/-- **C06 (only-if direction), for every source text**: if the parser model accepts, then in
every function body and every global initialiser of the resulting program
* a call of a defeat function and a `preempt` block occur only inside a try body or a defeat
  function (`mayCall _ .defeat`, `mayPreempt`),
* a `try`, a `??` and a call of a you-function occur only in a you-function, never inside a try
  body, never inside an operand of `??` (`mayTry`, `mayCall _ .you`),
* both operands of `??` contain only ordinary calls (`inSpec`),
* `break` and `continue` occur only inside a loop body (`inLoop`),
* a global initialiser contains no call at all (`Kind.global`).
`RulesS` / `RulesE` state exactly this, position by position, in the vocabulary of the
documentation (`Pos`); no context number appears in the statement. -/
theorem accepted_programs_respect_the_rules (src : List Line) (p : PProgram) (h : parse src = .ok p) :
    (∀ f ∈ p.funcs, RulesS (startPos f.fl) f.body) ∧
    (∀ v ∈ p.vars, RulesS ⟨.global, false, false, false⟩ v) :=
  accepted_respects_rules src p h

/-- what the rules say in four typical positions (non-vacuity of the vocabulary): a defeat call is
allowed in a try body of a you-function and in a defeat function, not directly in a you-function
and not in an operand of `??`; a you-call is not allowed inside a try body; nothing may be called
from a global initialiser -/
example : mayCall ⟨.you, true, false, false⟩ .defeat = true ∧ mayCall ⟨.defeat, false, false, false⟩ .defeat = true ∧
    mayCall ⟨.you, false, false, false⟩ .defeat = false ∧ mayCall ⟨.you, false, false, true⟩ .defeat = false ∧
    mayCall ⟨.you, true, false, false⟩ .you = false ∧ mayCall ⟨.global, false, false, false⟩ .none = false ∧
    mayTry ⟨.you, false, true, false⟩ = true ∧ mayTry ⟨.you, true, false, false⟩ = false ∧ mayTry ⟨.ordinary, false, false, false⟩ = false := by
  decide +kernel

/-- the hypothesis of the theorem is satisfiable, and the parser model does reject what the rules
forbid: a defeat call in a try body and a you-call in the handler are accepted; the same defeat
call directly in the you-function, a you-call inside the try body and a `break` outside a loop
are not -/
example :
    let line (s : String) : List Line := [s.toList.map Char.toNat]
    (match parse (line "empty @is_you() { try { !f(1); } undo { @g(); } }") with | .ok p => p.funcs.length == 1 | .error _ => false) = true ∧
    (match parse (line "empty @is_you() { !f(1); }") with | .ok _ => false | .error _ => true) = true ∧
    (match parse (line "empty @is_you() { try { @g(); } undo { } }") with | .ok _ => false | .error _ => true) = true ∧
    (match parse (line "empty f() { break; }") with | .ok _ => false | .error _ => true) = true := by
  refine ⟨by decide +kernel, by decide +kernel, by decide +kernel, by decide +kernel⟩

end HidVerif.Props.C06
