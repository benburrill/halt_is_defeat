import HidVerif.Proofs.Guards
import HidVerif.Proofs.CoreMain
/-!
# C15 — `--unchecked` changes nothing on fault-free runs

Guards are observers (`*_guard_observer`): each runtime check, when it passes, hands control to the code after it
with *exactly* the memory it found (same `m` on both sides of `Reach`, empty trace) — the
scratch subtraction of the stack guards sits on the path not taken and is never committed.  An
unchecked build is the checked build without these fragments (validated on every generated
program by comparing both builds on the VM).
-/
namespace HidVerif.Props.C15
open HidVerif HidVerif.PSys HidVerif.Sphinx HidVerif.Gen HidVerif.Compiler

theorem div_guard_observer {p : Prog} {B pc ok : Nat} {m : Mem} (hp : Placed p B) {b : Arg} {y : Nat}
    (h : PlacedAt p pc (divGuard ok b (B + off_division_by_zero))) (hok : ok < 256 ^ p.w)
    (hb : ∀ pc', evalArg p ⟨pc', m⟩ b = some y) (hy : y ≠ 0) : Reach (sphinx p) ⟨pc, m⟩ [] ⟨ok, m⟩ :=
  (Sphinx.div_guard_exact hp h hok hb).1 hy

theorem index_guard_observer {p : Prog} {B pc ok : Nat} {m : Mem} (hp : Placed p B) {ia la : Arg} {idx len : Nat}
    (h : PlacedAt p pc (indexGuard ok ia la (B + off_out_of_bounds))) (hok : ok < 256 ^ p.w)
    (hi : ∀ pc', evalArg p ⟨pc', m⟩ ia = some idx) (hl : ∀ pc', evalArg p ⟨pc', m⟩ la = some len)
    (hlen : len < 256 ^ p.w / 2) (hidx : idx < 256 ^ p.w)
    (hin : 0 ≤ toS (256 ^ p.w) idx ∧ toS (256 ^ p.w) idx < (len : Int)) : Reach (sphinx p) ⟨pc, m⟩ [] ⟨ok, m⟩ :=
  (Sphinx.index_guard_exact hp h hok hi hl hlen hidx).1 hin

theorem length_guard_observer {p : Prog} {B pc ok : Nat} {m : Mem} (hp : Placed p B) {la : Arg} {len maxLen : Nat}
    (h : PlacedAt p pc (lengthGuard ok la maxLen (B + off_stack_overflow))) (hok : ok < 256 ^ p.w)
    (hl : ∀ pc', evalArg p ⟨pc', m⟩ la = some len) (hmx : maxLen < 256 ^ p.w) (hle : len ≤ maxLen) :
    Reach (sphinx p) ⟨pc, m⟩ [] ⟨ok, m⟩ := (Sphinx.length_guard_exact hp h hok hl hmx).1 hle

/-- the stack guard writes `r1` only on the path that is not taken -/
theorem entry_guard_observer {p : Prog} {B pc ok k : Nat} {m : Mem} (hp : Placed p B)
    (h : PlacedAt p pc (entryGuard p.w ok k (B + off_stack_overflow))) (hok : ok < 256 ^ p.w)
    (hsz : 5 * p.w ≤ m.size) (hk : k < 256 ^ p.w)
    {fp ap : Nat} (hfp : m.readLE p.w p.w = fp) (hap : m.readLE 0 p.w = ap) (hle : ap ≤ fp)
    (hfit : ap + k ≤ fp) : Reach (sphinx p) ⟨pc, m⟩ [] ⟨ok, m⟩ :=
  (Sphinx.entry_guard_exact hp h hok hsz hk hfp hap hle).1 hfit

/-! ## The sequential integer core: `--unchecked` changes nothing on fault-free runs -/

/-- **C15 on the core**: for a fault-free run, the checked and the unchecked build (same source,
arguments, word size and stack size) perform the same events and both end in the terminal loop. -/
theorem core_unchecked_same (w S : Nat) (args : List Int) (pr : Core.CProg) (hw : 2 ≤ w)
    (hB1 : Core.progLen true pr + stdlibLength < 256 ^ w) (hB0 : Core.progLen false pr + stdlibLength < 256 ^ w)
    (hSE : 5 * w + S * w + args.length * w + w + Core.regsLen w pr < 256 ^ w)
    (hwf : Core.wfProg pr = true) (hlen : args.length = pr.params.length)
    (fuel : Nat) (env' : Core.Env) (tr : List Ev) (res : Core.Res)
    (hex : Core.srcRun ⟨w, S, true⟩ fuel args pr = some (env', tr, res))
    (hnf : res ≠ .div0) (hno : res ≠ .ovf) (hroom : Core.pkS w (Core.entryOff w pr.params) pr.body ≤ S * w + args.length * w + w) :
    ∃ m1 m0,
      Exec (sphinx (Core.coreProg ⟨w, S, true⟩ pr)) (Core.coreInit ⟨w, S, true⟩ args pr) (tr ++ [Ev.flag "win"])
        ⟨tntPc (Core.progLen true pr), m1⟩ ∧
      Exec (sphinx (Core.coreProg ⟨w, S, false⟩ pr)) (Core.coreInit ⟨w, S, false⟩ args pr) (tr ++ [Ev.flag "win"])
        ⟨tntPc (Core.progLen false pr), m0⟩ := by
  obtain ⟨m1, h1, _⟩ := Core.core_correct ⟨w, S, true⟩ args pr hw hB1 hSE hwf hlen fuel env' tr res hex
    (fun h => h.elim (fun h => absurd h hnf) (fun h => absurd h hno)) (fun h => absurd h hno) hroom
  obtain ⟨m0, h0, _⟩ := Core.core_correct ⟨w, S, false⟩ args pr hw hB0 hSE hwf hlen fuel env' tr res hex
    (fun h => h.elim (fun h => absurd h hnf) (fun h => absurd h hno)) (fun h => absurd h hno) hroom
  have ht : Core.terminalEvs res = [Ev.flag "win"] := by
    cases res with
    | div0 => exact absurd rfl hnf
    | norm => rfl
    | returned => rfl
    | defeat => rfl
    | retv v => rfl
    | ovf => exact absurd rfl hno
    | brk => rfl
    | cnt => rfl
  rw [ht] at h1 h0
  exact ⟨m1, m0, h1, h0⟩

end HidVerif.Props.C15
