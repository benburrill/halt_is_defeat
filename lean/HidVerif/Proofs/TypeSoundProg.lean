import HidVerif.Proofs.TypeSoundStmt
import HidVerif.Proofs.ParseSound
/-!
# Type soundness for whole sources: what the parser accepts has proper types, what the typechecker then accepts is well typed
-/
namespace HidVerif.Hid.TC
open HidVerif.Hid HidVerif.Hid.Lex HidVerif.Hid.Parse HidVerif.Gen

theorem ptyE_of_ok {c : Nat} {e : PExpr} (h : OkE c e) : ptyE e = true := by
  induction h with
  | int | char | str | bool | var => rfl
  | arrlit _ ih => simp only [ptyE]; exact ptyEs_of_all _ ih
  | call _ _ _ ih => simp only [ptyE]; exact ptyEs_of_all _ ih
  | len _ ih => simpa [ptyE] using ih
  | index _ _ ih1 ih2 => simp [ptyE, ih1, ih2]
  | un _ ih => simpa [ptyE] using ih
  | is_ _ ht ih => simp [ptyE, ih, ht]
  | bin _ _ _ ih1 ih2 => simp [ptyE, ih1, ih2]
  | spec _ _ _ ih1 ih2 => simp [ptyE, ih1, ih2]

theorem ptyS_of_ok {c : Nat} {s : PStmt} (h : OkS c s) : ptyS s = true := by
  induction h with
  | expr he => simpa [ptyS] using ptyE_of_ok he
  | decl he ht => simp [ptyS, ptyE_of_ok he, ht]
  | vla he ht => simp [ptyS, ptyE_of_ok he, ht]
  | assign h1 h2 => simp [ptyS, ptyE_of_ok h1, ptyE_of_ok h2]
  | incassign h1 h2 _ => simp [ptyS, ptyE_of_ok h1, ptyE_of_ok h2]
  | @ret ctx eo he =>
    cases eo with
    | none => simp [ptyS]
    | some e => simpa [ptyS] using ptyE_of_ok (he e rfl)
  | brk | cont => rfl
  | block _ ih => simp only [ptyS]; exact ptySs_of_all _ ih
  | ifb hc _ _ _ _ ih1 ih2 => simp [ptyS, ptyE_of_ok hc, ih1, ih2]
  | loop hc _ _ _ _ ih1 ih2 => simp [ptyS, ptyE_of_ok hc, ih1, ih2]
  | tryb _ _ _ _ _ ih1 ih2 => simp [ptyS, ih1, ih2]
  | preempt _ _ _ ih => simpa [ptyS] using ih

theorem ptyProg_of_ok {p : PProgram} (h : ProgOK p) : ptyProg p = true := by
  simp only [ptyProg, Bool.and_eq_true, List.all_eq_true]
  refine ⟨ptySs_of_all _ (fun v hv => ptyS_of_ok (h.vars v hv)), ?_⟩
  intro f hf
  obtain ⟨h1, h2⟩ := h.sigs f hf
  simp only [ptyFunc, Bool.and_eq_true, Bool.or_eq_true, List.all_eq_true]
  refine ⟨⟨?_, h2⟩, ptyS_of_ok (h.funcs f hf)⟩
  rcases h1 with h1 | h1
  · exact Or.inl h1
  · exact Or.inr (by simp [h1])

/-- **Type soundness of the front-end model, from source text to typed tree**: what parser and typechecker accept obeys
`wtProg`, judged against the program's own signature table -/
theorem accepted_well_typed (lint : Bool) (src : List Line) (p : PProgram) (tp : TProgram)
    (hparse : parse src = .ok p) (htc : tcProgram lint p = .ok tp) : wtProg tp = true := by
  obtain ⟨h1, h2⟩ := tcProgram_wt (ptyProg_of_ok (parse_sound src p hparse)) htc
  unfold wtProg; rw [h2]; exact h1

end HidVerif.Hid.TC
