/-!
# Decimal digits of a word: what `write(int)` must print, and how many bytes that takes

`hidc` reserves `(8w-1)·30103/100000 + 1` bytes for the digits of `write(int)`.  This is enough
for every `w`: `2^k < 10^(k·30103/100000 + 1)` because `2^100000 < 10^30103`.
-/
namespace HidVerif.Sphinx

/-- decimal digits as ASCII, most significant first -/
def digits (n : Nat) : List Nat :=
  if h : n < 10 then [n + 48] else digits (n / 10) ++ [n % 10 + 48]
decreasing_by omega

theorem digits_lt (n : Nat) (h : n < 10) : digits n = [n + 48] := by
  rw [digits]; simp [h]
theorem digits_ge (n : Nat) (h : ¬ n < 10) : digits n = digits (n / 10) ++ [n % 10 + 48] := by
  rw [digits]; simp [h]
theorem digits_pos (n : Nat) : 0 < (digits n).length := by
  by_cases h : n < 10
  · rw [digits_lt n h]; simp
  · rw [digits_ge n h]; simp

theorem digits_len_le (n : Nat) (h : 1 ≤ n) : (digits n).length ≤ n := by
  induction n using Nat.strongRecOn with
  | _ n ih =>
    by_cases hlt : n < 10
    · rw [digits_lt n hlt]; simpa using h
    · rw [digits_ge n hlt]; simp
      have := ih (n / 10) (by omega) (by omega); omega

/-- what `write(int)` must print for the word value `v`: the decimal reading of `toS v` -/
def decimalW (M v : Nat) : List Nat :=
  if v < M / 2 then digits v else 45 :: digits (M - v)

/-- magnitude of the signed reading -/
def absW (M v : Nat) : Nat := if v < M / 2 then v else M - v

theorem digits_len_lt_half {M n : Nat} (hM : 65536 ≤ M) (hn : n ≤ M / 2) : (digits n).length < M / 2 := by
  by_cases h0 : n = 0
  · subst h0; rw [digits_lt 0 (by omega)]; simp; omega
  · by_cases h10 : n < 10
    · rw [digits_lt n h10]; simp; omega
    · have := digits_ge n h10
      have h1 := digits_len_le (n / 10) (by omega)
      rw [this]; simp; omega

theorem digits_len_pow (d : Nat) : ∀ n, n < 10 ^ (d + 1) → (digits n).length ≤ d + 1 := by
  induction d with
  | zero => intro n h; rw [digits_lt n (by simpa using h)]; simp
  | succ d ih =>
    intro n h
    by_cases h10 : n < 10
    · rw [digits_lt n h10]; simp
    · rw [digits_ge n h10]
      have : n / 10 < 10 ^ (d + 1) := by
        rw [Nat.pow_succ] at h; omega
      have := ih (n / 10) this
      simp; omega

theorem two_pow_100000 : (2 : Nat) ^ 100000 < 10 ^ 30103 := by decide +kernel

theorem pow2_lt_pow10 (k : Nat) : 2 ^ k < 10 ^ (k * 30103 / 100000 + 1) := by
  have h1 : (2 ^ k) ^ 100000 < (10 ^ (k * 30103 / 100000 + 1)) ^ 100000 := by
    calc (2 ^ k) ^ 100000 = (2 ^ 100000) ^ k := by rw [← Nat.pow_mul, ← Nat.pow_mul, Nat.mul_comm]
      _ ≤ (10 ^ 30103) ^ k := Nat.pow_le_pow_left (Nat.le_of_lt two_pow_100000) k
      _ = 10 ^ (30103 * k) := by rw [← Nat.pow_mul]
      _ < 10 ^ ((k * 30103 / 100000 + 1) * 100000) := Nat.pow_lt_pow_right (by decide) (by omega)
      _ = (10 ^ (k * 30103 / 100000 + 1)) ^ 100000 := by rw [Nat.pow_mul]
  exact (Nat.pow_lt_pow_iff_left (by decide)).1 h1

/-- the digit buffer `hidc` accounts for is long enough for every word value -/
theorem digits_absW_le (w : Nat) (hw : 1 ≤ w) (v : Nat) (hv : v < 256 ^ w) :
    (digits (absW (256 ^ w) v)).length ≤ (8 * w - 1) * 30103 / 100000 + 1 := by
  have hM : 256 ^ w = 2 * 2 ^ (8 * w - 1) := by
    have : 256 ^ w = 2 ^ (8 * w) := by rw [show (256 : Nat) = 2 ^ 8 from rfl, ← Nat.pow_mul]
    rw [this, show 8 * w = (8 * w - 1) + 1 by omega, Nat.pow_succ]; simp; omega
  have habs : absW (256 ^ w) v ≤ 2 ^ (8 * w - 1) := by
    unfold absW; split <;> omega
  have hlt := pow2_lt_pow10 (8 * w - 1)
  by_cases he : absW (256 ^ w) v = 2 ^ (8 * w - 1)
  · rw [he]; exact digits_len_pow _ _ hlt
  · exact digits_len_pow _ _ (by omega)

end HidVerif.Sphinx
