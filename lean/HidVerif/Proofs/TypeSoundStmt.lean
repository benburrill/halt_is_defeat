import HidVerif.Proofs.TypeSound
/-!
# Type soundness of the typechecker model for statements, blocks, functions and programs: what `tcProgram` accepts
obeys the rules `wtS`, `wtProg`, judged against the program's own signature table
-/
namespace HidVerif.Hid.TC
open HidVerif.Hid HidVerif.Hid.Lex HidVerif.Hid.Parse HidVerif.Gen

theorem EnvOK.child {env : Env} (h : EnvOK env) : EnvOK env.child := by
  refine ⟨?_, h.ptys, h.rets, h.ret⟩
  intro sc hsc d hd
  simp only [Env.child, List.mem_cons] at hsc
  rcases hsc with rfl | hsc
  · simp at hd
  · exact h.decls sc hsc d hd

theorem EnvOK.declare {env : Env} (h : EnvOK env) {d : VarDecl} (hd : declOK env.funcs d = true) :
    EnvOK (env.declare d) ∧ (env.declare d).funcs = env.funcs ∧ (env.declare d).retTy = env.retTy := by
  unfold Env.declare
  split
  · rename_i sc rest hsc
    refine ⟨⟨?_, h.ptys, h.rets, h.ret⟩, rfl, rfl⟩
    intro sc' hsc' d' hd'
    simp only [List.mem_cons] at hsc'
    rcases hsc' with rfl | hsc'
    · simp only [List.mem_cons, List.mem_filter] at hd'
      rcases hd' with rfl | hd'
      · exact hd
      · exact h.decls sc (by rw [hsc]; simp) d' hd'.1
    · exact h.decls sc' (by rw [hsc]; simp [hsc']) d' hd'
  · refine ⟨⟨?_, h.ptys, h.rets, h.ret⟩, rfl, rfl⟩
    intro sc' hsc' d' hd'
    simp only [List.mem_singleton] at hsc'
    subst hsc'
    simp only [List.mem_singleton] at hd'
    subst hd'
    exact hd

def StOK (env : Env) (rt : Ty) (env' : Env) (t : TS) : Prop :=
  wtS env.funcs rt t = true ∧ EnvOK env' ∧ env'.funcs = env.funcs ∧ env'.retTy = env.retTy

theorem StOK.same {env : Env} {rt : Ty} {t : TS} (henv : EnvOK env) (h : wtS env.funcs rt t = true) : StOK env rt env t :=
  ⟨h, henv, rfl, rfl⟩

theorem tcDecl_post {env : Env} (henv : EnvOK env) {n : List CP} {ty : Ty} {c : Bool} {init : TE} (rt : Ty)
    (hty : tyOK ty = true) (hi : wtE env.funcs init = true) :
    Post (tcDecl env n ty c init) (fun r => StOK env rt r.1 r.2) := by
  unfold tcDecl
  refine Post.skip fun _ _ => (coerce_post hi (tyOK_tgtOK hty)).bind fun i _ hi' => ?_
  have hd : declOK env.funcs ⟨n, ty, c, i⟩ = true := by
    simp only [declOK, hty, hi'.1, hi'.2, beq_self_eq_true, Bool.and_self]
  obtain ⟨h1, h2, h3⟩ := henv.declare hd
  split
  · exact .throw trivial
  · exact .pure ⟨by simp only [wtS, hi'.1, hi'.2, hty, beq_self_eq_true, Bool.and_self], h1, h2, h3⟩

theorem checkRedecl_ok {env : Env} {n : List CP} {u : Unit} (_h : checkRedecl env n = .ok u) : True := trivial

theorem tcAssign_post {env : Env} (henv : EnvOK env) {l r : PExpr} (hl : ptyE l = true) (hr : ptyE r = true) :
    Post (tcAssign env l r) (fun p => p.1 = env ∧ ∃ lk e e1, p.2 = .assign lk e ∧ wtE env.funcs lk = true ∧
      wtE env.funcs e = true ∧ typeOf e = typeOf lk ∧ isAssignableTE lk = some false ∧
      tcExpr env l = .ok lk ∧ tcExpr env r = .ok e1) := by
  unfold tcAssign
  refine (tcExpr_wt_post env henv l hl).bind fun lk hlk hwl => ?_
  split
  · rename_i ha
    exact (tcExpr_wt_post env henv r hr).bind fun e1 he1 hwe =>
      (coerce_post hwe (assignable_tgtOK henv.rets hwl ha)).bind fun e _ he =>
        .pure ⟨rfl, lk, e, e1, rfl, hwl, he.1, he.2, ha, hlk, he1⟩
  · exact .throw trivial

theorem coerce_coercible (e : TE) (new : Ty) : Post (coerce e new) (fun _ => coercible e new = true) := by
  unfold coerce
  split
  · rename_i h; exact Post.const h
  · exact .throw trivial

theorem tcExpr_arith_post {env : Env} {op : String} {aop : BinOp} {l r : PExpr} (ha : arithOpOf op = some aop) :
    Post (tcExpr env (.bin op l r)) (fun _ =>
      ∃ a b, tcExpr env l = .ok a ∧ tcExpr env r = .ok b ∧ coercible a .int = true ∧ coercible b .int = true) := by
  conv => arg 1; unfold tcExpr
  split
  · exact Post.self.bind fun a ha' _ => Post.self.bind fun b hb' _ => (coerce_coercible a .int).bind fun _ _ hca =>
      (coerce_coercible b .int).bind fun _ _ hcb => Post.const ⟨a, b, ha', hb', hca, hcb⟩
  · rename_i hn
    rw [ha] at hn; cases hn

theorem wtSs_reverse {fs : List FuncSig} {rt : Ty} {l : List TS} (h : wtSs fs rt l = true) : wtSs fs rt l.reverse = true := by
  rw [wtSs_eq_all] at *
  rw [List.all_reverse]; exact h

theorem wtSs_append {fs : List FuncSig} {rt : Ty} {l1 l2 : List TS} (h1 : wtSs fs rt l1 = true) (h2 : wtSs fs rt l2 = true) :
    wtSs fs rt (l1 ++ l2) = true := by
  rw [wtSs_eq_all] at *
  rw [List.all_append, h1, h2]; rfl

mutual
theorem tcStmt_wt_post (rt : Ty) : ∀ (s : PStmt) (env : Env), EnvOK env → (∀ r, env.retTy = some r → r = rt) →
    ptyS s = true → Post (tcStmt env s) (fun p => StOK env rt p.1 p.2)
  | .expr e, env, henv, _, hp => by
    unfold tcStmt
    exact (tcExpr_wt_post env henv e hp).bind fun te _ hte => .pure (StOK.same henv hte)
  | .decl n ty c init, env, henv, _, hp => by
    simp only [ptyS, Bool.and_eq_true] at hp
    unfold tcStmt
    exact Post.skip fun _ _ => (tcExpr_wt_post env henv init hp.2).bind fun i _ hi => tcDecl_post henv rt hp.1 hi
  | .vla n el c len, env, henv, _, hp => by
    simp only [ptyS, Bool.and_eq_true] at hp
    unfold tcStmt
    refine Post.skip fun _ _ => (tcExpr_wt_post env henv len hp.2).bind fun l _ hl =>
      (coerce_post hl tgtOK_int).bind fun l' _ hl' => tcDecl_post henv rt hp.1 ?_
    simp only [wtE, hl'.1, hl'.2, hp.1, beq_self_eq_true, Bool.and_self]
  | .assign l r, env, henv, _, hp => by
    simp only [ptyS, Bool.and_eq_true] at hp
    unfold tcStmt
    refine (tcAssign_post henv hp.1 hp.2).mono fun p _ h => ?_
    obtain ⟨env', t⟩ := p
    obtain ⟨rfl, lk, e, _, rfl, h1, h2, h3, h4, _⟩ := h
    exact StOK.same henv (by simp only [wtS, h1, h2, h3, h4, beq_self_eq_true, Bool.and_self])
  | .incassign l r op, env, henv, _, hp => by
    simp only [ptyS, Bool.and_eq_true] at hp
    unfold tcStmt
    split
    · exact .throw trivial
    · rename_i aop haop
      have haop : arithOpOf op = some aop := haop
      -- the type-equivalent assignment `l = l op r`: its two sides tell what the operands are
      refine (tcAssign_post henv hp.1 (show ptyE (.bin op l r) = true by simp only [ptyE, hp.1, hp.2, Bool.and_self])).bind
        fun pr _ h => ?_
      obtain ⟨env1, eq⟩ := pr
      obtain ⟨_, lk, _, e1, rfl, h1, _, _, h4, hlk, he1⟩ := h
      obtain ⟨a, b, ha, hb, hca, hcb⟩ := (tcExpr_arith_post haop).ok he1
      cases hlk.symm.trans ha
      dsimp only
      rw [pure_bind]
      refine (tcExpr_wt_post env henv r hp.2).bind fun e he hwe => .pure (StOK.same henv ?_)
      cases hb.symm.trans he
      simp only [wtS, h1, hwe, h4, arithOpOf_ok haop, hca, hcb, beq_self_eq_true, Bool.and_self]
  | .ret e, env, henv, hrt, hp => by
    unfold tcStmt
    split
    · exact .throw trivial
    · rename_i rt' hrt'
      cases hrt rt' hrt'
      split
      · rename_i v
        simp only [ptyS] at hp
        split
        · exact .throw trivial
        · rename_i hne
          refine (tcExpr_wt_post env henv v hp).bind fun te _ hte => (coerce_post hte (henv.ret _ hrt')).bind fun te' _ h =>
            .pure (StOK.same henv ?_)
          simp only [wtS, h.1, h.2, beq_self_eq_true, Bool.true_and]
          simpa using hne
      · split
        · exact .throw trivial
        · rename_i hne
          exact .pure (StOK.same henv (by simpa [wtS] using hne))
  | .brk, env, henv, _, _ | .cont, env, henv, _, _ => by unfold tcStmt; exact .pure (StOK.same henv rfl)
  | .block ss pre, env, henv, hrt, hp => by
    simp only [ptyS] at hp
    unfold tcStmt
    exact (tcBlockGo_wt_post rt ss env.child [] _ _ henv.child hrt hp rfl).bind fun b _ hb => .pure (StOK.same henv hb)
  | .ifb c a b, env, henv, hrt, hp | .loop c a b, env, henv, hrt, hp => by
    simp only [ptyS, Bool.and_eq_true] at hp
    unfold tcStmt
    refine (tcStmt_wt_post rt a env henv hrt hp.1.2).bind fun ta _ ha => (tcExpr_wt_post env henv c hp.1.1).bind fun cc _ hcc =>
      (cast_post env.funcs cc .bool false hcc tgtOK_bool).bind fun cc' _ hc' =>
        (tcStmt_wt_post rt b env henv hrt hp.2).bind fun tb _ hb => .pure (StOK.same henv ?_)
    simp only [wtS, hc'.1, hc'.2, ha.1, hb.1, beq_self_eq_true, Bool.and_self]
  | .tryb a k b, env, henv, hrt, hp => by
    simp only [ptyS, Bool.and_eq_true] at hp
    unfold tcStmt
    refine (tcStmt_wt_post rt a env henv hrt hp.1).bind fun ta _ ha => (tcStmt_wt_post rt b env henv hrt hp.2).bind fun tb _ hb =>
      .pure (StOK.same henv ?_)
    simp only [wtS, ha.1, hb.1, Bool.and_self]
  | .preempt a, env, henv, hrt, hp => by
    simp only [ptyS] at hp
    unfold tcStmt
    exact (tcStmt_wt_post rt a env henv hrt hp).bind fun ta _ ha => .pure (StOK.same henv (by simpa only [wtS] using ha.1))

theorem tcBlockGo_wt_post (rt : Ty) : ∀ (ss : List PStmt) (env : Env) (acc : List TS) (mode : Nat) (fc : Bool), EnvOK env →
    (∀ r, env.retTy = some r → r = rt) → ptySs ss = true → wtSs env.funcs rt acc = true →
    Post (tcBlockGo env ss acc mode fc) (fun t => wtS env.funcs rt t = true)
  | [], env, acc, mode, fc, _, _, _, hacc => by
    unfold tcBlockGo
    exact .pure (by simpa only [wtS] using wtSs_reverse hacc)
  | s :: rest, env, acc, mode, fc, henv, hrt, hp, hacc => by
    simp only [ptySs, Bool.and_eq_true] at hp
    unfold tcBlockGo
    split
    · split
      · exact .throw trivial
      · exact .pure (by simpa only [wtS] using wtSs_reverse hacc)
    · refine (tcStmt_wt_post rt s env henv hrt hp.1).bind fun pr _ h => ?_
      obtain ⟨env1, t1⟩ := pr
      obtain ⟨h1, h2, h3, h4⟩ := h
      dsimp only
      have := tcBlockGo_wt_post rt rest env1 (t1 :: acc) (stepMode mode t1).1 (fc || (stepMode mode t1).2) h2
        (by rw [h4]; exact hrt) hp.2 (by rw [h3]; simp only [wtSs, h1, hacc, Bool.and_self])
      rw [h3] at this; exact this
end

theorem tcStmt_wt (rt : Ty) : ∀ (s : PStmt) (env env' : Env) (t : TS), EnvOK env → (∀ r, env.retTy = some r → r = rt) →
    ptyS s = true → tcStmt env s = .ok (env', t) → StOK env rt env' t :=
  fun s env _ _ henv hrt hp h => (tcStmt_wt_post rt s env henv hrt hp).ok h

theorem tcBlockGo_wt (rt : Ty) : ∀ (ss : List PStmt) (env : Env) (acc : List TS) (mode : Nat) (fc : Bool) (t : TS), EnvOK env →
    (∀ r, env.retTy = some r → r = rt) → ptySs ss = true → wtSs env.funcs rt acc = true →
    tcBlockGo env ss acc mode fc = .ok t → wtS env.funcs rt t = true :=
  fun ss env acc mode fc _ henv hrt hp hacc h => (tcBlockGo_wt_post rt ss env acc mode fc henv hrt hp hacc).ok h

theorem finishBody_post {fl : Flavor} {ret : Ty} {body : TS} {mode : Nat} {Q : TS → Prop}
    (hkeep : emHas mode "NONE" = false → Q body)
    (happ : emHas mode "NONE" = true → ret = .empty → Q (match (generalizing := false) body with
      | .block stmts m => TS.block (stmts ++ [.ret none]) (emReplace m (em "NONE") (em "RETURN"))
      | b => b)) :
    Post (finishBody fl ret body mode) Q := by
  unfold finishBody
  split
  · exact .throw trivial
  split
  · exact .throw trivial
  split
  · rename_i hn
    split
    · exact .throw trivial
    · rename_i hne
      have := happ hn (by simpa using hne)
      cases body <;> exact .pure this
  · rename_i hn
    exact .pure (hkeep (by simpa using hn))

theorem bodyStmts_pty {s : PStmt} (h : ptyS s = true) : ptySs (bodyStmts s) = true := by
  rcases bodyStmts_cases s with ⟨ss, pre, rfl, hb⟩ | hb <;> rw [hb]
  · simpa only [ptyS] using h
  · simp only [ptySs, h, Bool.and_self]

theorem tcFunc_post {env : Env} (henv : EnvOK env) {f : PFunc} (hp : ptyFunc f = true) :
    Post (tcFunc env f) (fun tf => wtS env.funcs tf.ret tf.body = true ∧ tf.name = f.name ∧ tf.fl = f.fl ∧ tf.ret = f.ret ∧
      tf.params.map (·.2) = f.params.map (fun q => q.2.1)) := by
  simp only [ptyFunc, Bool.and_eq_true, Bool.or_eq_true, List.all_eq_true] at hp
  obtain ⟨⟨hret, hpar⟩, hbody⟩ := hp
  have henv0 : EnvOK { env.child with retTy := some f.ret } := by
    refine ⟨henv.child.decls, henv.ptys, henv.rets, ?_⟩
    intro r hr
    cases hr
    rcases hret with h1 | h1
    · exact tyOK_tgtOK h1
    · rw [beq_iff_eq.1 h1]; rfl
  unfold tcFunc
  refine Sat.bind (Sat.foldlM (Q := fun e => EnvOK e ∧ e.funcs = env.funcs ∧ e.retTy = some f.ret) f.params _
    (fun e q hq he => ?_) ⟨henv0, rfl, rfl⟩) fun env1 _ ⟨h1, h2, h3⟩ => ?_
  · have hty := hpar q hq
    refine (tcDecl_post he.1 .int hty (show wtE e.funcs (.param q.2.1) = true by simpa only [wtE] using hty)).bind
      fun pr _ h => ?_
    obtain ⟨e', t'⟩ := pr
    exact .pure ⟨h.2.1, h.2.2.1.trans he.2.1, h.2.2.2.trans he.2.2⟩
  have hwb := tcBlockGo_wt_post f.ret (bodyStmts f.body) env1.child [] (em "NONE") false h1.child
    (fun r hr => by rw [show env1.child.retTy = some f.ret from h3] at hr; cases hr; rfl) (bodyStmts_pty hbody) rfl
  rw [show env1.child.funcs = env.funcs from h2] at hwb
  refine Sat.bind (x := tcBlock env1 (bodyStmts f.body)) hwb fun body _ hw => ?_
  refine (finishBody_post (Q := fun b => wtS env.funcs f.ret b = true) (fun _ => hw) fun _ hre => ?_).bind fun body' _ hw' =>
    .pure ⟨hw', rfl, rfl, rfl, by simp only [List.map_map, Function.comp_def]⟩
  split
  · simp only [wtS] at hw ⊢
    exact wtSs_append hw (by simp only [wtSs, wtS, hre, beq_self_eq_true, Bool.and_self])
  · exact hw

theorem tcFunc_wt {env : Env} (henv : EnvOK env) {f : PFunc} {tf : TFunc} (hp : ptyFunc f = true) (h : tcFunc env f = .ok tf) :
    wtS env.funcs tf.ret tf.body = true ∧ tf.name = f.name ∧ tf.fl = f.fl ∧ tf.ret = f.ret ∧
      tf.params.map (·.2) = f.params.map (fun q => q.2.1) :=
  (tcFunc_post henv hp).ok h

def sigOfP (f : PFunc) : FuncSig := ⟨f.name, f.fl, f.params.map (fun q => q.2.1), f.ret, false⟩

theorem builtin_ptys_ok : ∀ f ∈ builtinSigs, ∀ t ∈ f.ptys, tgtOK t = true := by decide
theorem builtin_rets_ok : ∀ f ∈ builtinSigs, noNest f.ret = true := by decide

theorem tcProgram_post {lint : Bool} {p : PProgram} (hp : ptyProg p = true) :
    Post (tcProgram lint p) (fun tp => wtProgWith (progSigs p) tp = true ∧ sigsOf tp = progSigs p) := by
  simp only [ptyProg, Bool.and_eq_true, List.all_eq_true] at hp
  obtain ⟨hvars, hfuncs⟩ := hp
  rw [ptySs_eq_all, List.all_eq_true] at hvars
  unfold tcProgram
  refine Sat.bind (Post.foldlM_append (g := sigOfP) (fun acc f => ?_) p.funcs builtinSigs) fun funcs _ hfs => ?_
  · dsimp only
    split
    · exact .throw trivial
    · exact .pure rfl
  have hfs : funcs = progSigs p := hfs
  subst hfs
  dsimp only
  have henv0 : EnvOK { scopes := [[]], funcs := progSigs p, lint := lint, retTy := none } := by
    refine ⟨?_, ?_, ?_, ?_⟩
    · intro sc hsc d hd
      cases List.mem_singleton.1 hsc; cases hd
    · intro f hf t ht
      simp only [progSigs, List.mem_append, List.mem_map] at hf
      rcases hf with hf | ⟨g, hg, rfl⟩
      · exact builtin_ptys_ok f hf t ht
      · have := hfuncs g hg
        simp only [ptyFunc, Bool.and_eq_true, List.all_eq_true] at this
        obtain ⟨q, hq, rfl⟩ := List.mem_map.1 ht
        exact tyOK_tgtOK (this.1.2 q hq)
    · intro f hf
      simp only [progSigs, List.mem_append, List.mem_map] at hf
      rcases hf with hf | ⟨g, hg, rfl⟩
      · exact builtin_rets_ok f hf
      · have := hfuncs g hg
        simp only [ptyFunc, Bool.and_eq_true, Bool.or_eq_true] at this
        rcases this.1.1 with h1 | h1
        · exact tyOK_noNest h1
        · show noNest g.ret = true
          rw [beq_iff_eq.1 h1]; rfl
    · intro r hr; cases hr
  refine Sat.bind (Sat.foldlM (Q := fun e => EnvOK e ∧ e.funcs = progSigs p ∧ e.retTy = none) p.vars _
    (fun e v hv he => ?_) ⟨henv0, rfl, rfl⟩) fun env _ ⟨he1, he2, _⟩ => ?_
  · refine (tcStmt_wt_post .int v e he.1 (fun r hr' => by rw [he.2.2] at hr'; cases hr') (hvars v hv)).bind fun pr _ h => ?_
    obtain ⟨e', t'⟩ := pr
    exact .pure ⟨h.2.1, h.2.2.1.trans he.2.1, h.2.2.2.trans he.2.2⟩
  refine Sat.bind (Sat.mapM p.funcs fun g hg => tcFunc_post he1 (hfuncs g hg)) fun fs _ hall => .pure ⟨?_, ?_⟩
  · simp only [wtProgWith, Bool.and_eq_true, List.all_eq_true]
    constructor
    · intro d hd
      rw [List.mem_reverse, List.getLastD_eq_getLast?] at hd
      cases hl : env.scopes.getLast? with
      | none => rw [hl] at hd; cases hd
      | some sc => rw [hl] at hd; exact he2 ▸ he1.decls sc (List.mem_of_getLast? hl) d hd
    · intro tf htf
      obtain ⟨g, _, hgt⟩ := hall.of_mem tf htf
      exact he2 ▸ hgt.1
  · show builtinSigs ++ fs.map _ = builtinSigs ++ p.funcs.map _
    refine congrArg _ (hall.map_eq fun g _ tf hgt => ?_)
    obtain ⟨_, h1, h2, h3, h4⟩ := hgt
    rw [h1, h2, h3, h4]

/-- **every program the typechecker accepts has a well-typed tree** (`wtE`, `wtS` of `Hid/TypeRules.lean`), and the
signatures its calls were resolved against are those read off the typed program -/
theorem tcProgram_wt {lint : Bool} {p : PProgram} {tp : TProgram} (hp : ptyProg p = true) (h : tcProgram lint p = .ok tp) :
    wtProgWith (progSigs p) tp = true ∧ sigsOf tp = progSigs p :=
  (tcProgram_post hp).ok h

end HidVerif.Hid.TC
