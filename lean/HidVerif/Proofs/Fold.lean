import HidVerif.Hid.Fold
/-!
# `E.wrap`, the representation of integers as machine words (used for C14 in `Proofs/FoldMain.lean`)

`E.wrap` is reduction modulo `E.M`: it commutes with `+`, `-`, `*`, and on the signed range `[-H, H)` it is injective
with inverse `E.toS`.
-/
namespace HidVerif.Hid

theorem wrap_lt (E : Env) (hM : 0 < E.M) (v : Int) : E.wrap v < E.M := by
  unfold Env.wrap
  have h1 := Int.emod_nonneg v (by omega : (E.M : Int) ≠ 0)
  have h2 := Int.emod_lt_of_pos v (by omega : (0 : Int) < E.M)
  omega

theorem wrap_cast (E : Env) (hM : 0 < E.M) (v : Int) : ((E.wrap v : Nat) : Int) = v % (E.M : Int) := by
  unfold Env.wrap
  exact Int.toNat_of_nonneg (Int.emod_nonneg v (by omega))

theorem wrap_of_cast (E : Env) (hM : 0 < E.M) (n : Nat) (v : Int) (h : (n : Int) = v % (E.M : Int)) :
    n = E.wrap v := by
  have := wrap_cast E hM v
  omega

theorem wrap_add (E : Env) (a b : Int) (hM : 0 < E.M) : (E.wrap a + E.wrap b) % E.M = E.wrap (a + b) := by
  apply wrap_of_cast E hM
  rw [Int.natCast_emod, Int.natCast_add, wrap_cast E hM a, wrap_cast E hM b, ← Int.add_emod]

theorem wrap_sub (E : Env) (a b : Int) (hM : 0 < E.M) :
    (E.wrap a + E.M - E.wrap b % E.M) % E.M = E.wrap (a - b) := by
  have hb := wrap_lt E hM b
  rw [Nat.mod_eq_of_lt hb]
  apply wrap_of_cast E hM
  have hle : E.wrap b ≤ E.wrap a + E.M := by omega
  rw [Int.natCast_emod, Int.natCast_sub hle, Int.natCast_add, wrap_cast E hM a, wrap_cast E hM b]
  have : a % (E.M : Int) + (E.M : Int) - b % (E.M : Int) = (a % (E.M : Int) - b % (E.M : Int)) + (E.M : Int) := by omega
  rw [this, Int.add_emod_right, ← Int.sub_emod]

theorem wrap_mul (E : Env) (a b : Int) (hM : 0 < E.M) : (E.wrap a * E.wrap b) % E.M = E.wrap (a * b) := by
  apply wrap_of_cast E hM
  rw [Int.natCast_emod, Int.natCast_mul, wrap_cast E hM a, wrap_cast E hM b, ← Int.mul_emod]

theorem wrap_toS (E : Env) (hM : 2 ≤ E.M) (heven : E.M % 2 = 0) (v : Int) (h1 : -(E.H : Int) ≤ v) (h2 : v < E.H) :
    E.toS (E.wrap v) = v := by
  have hc := wrap_cast E (by omega) v
  unfold Env.toS
  unfold Env.H at *
  by_cases hv : 0 ≤ v
  · rw [Int.emod_eq_of_lt hv (by omega)] at hc
    split <;> omega
  · have : v % (E.M : Int) = v + E.M := by
      rw [← Int.add_emod_right]; exact Int.emod_eq_of_lt (by omega) (by omega)
    rw [this] at hc
    split <;> omega

theorem wrap_inj (E : Env) (hM : 2 ≤ E.M) (heven : E.M % 2 = 0) (a b : Int)
    (ha1 : -(E.H : Int) ≤ a) (ha2 : a < E.H) (hb1 : -(E.H : Int) ≤ b) (hb2 : b < E.H) :
    E.wrap a = E.wrap b ↔ a = b := by
  constructor
  · intro h
    have h1 := wrap_toS E hM heven a ha1 ha2
    have h2 := wrap_toS E hM heven b hb1 hb2
    rw [h] at h1; omega
  · rintro rfl; rfl

@[simp] theorem wrap_zero (E : Env) : E.wrap 0 = 0 := by simp [Env.wrap]

theorem wrap_eq_zero_iff (E : Env) (hM : 2 ≤ E.M) (heven : E.M % 2 = 0) (v : Int)
    (h1 : -(E.H : Int) ≤ v) (h2 : v < E.H) : E.wrap v = 0 ↔ v = 0 := by
  have := wrap_inj E hM heven v 0 h1 h2 (by omega) (by unfold Env.H; omega)
  rwa [wrap_zero] at this

theorem wrap_b2i (E : Env) (hM : 2 ≤ E.M) (p : Bool) : E.wrap (b2i p) = if p then 1 else 0 := by
  cases p
  · exact wrap_zero E
  · show (1 % (E.M : Int)).toNat = 1
    rw [Int.emod_eq_of_lt (by omega) (by omega)]; rfl

end HidVerif.Hid
