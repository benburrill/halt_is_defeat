import HidVerif.Hid.Machine
import HidVerif.Proofs.Driver
/-!
# Laws of the reference semantics (C02): what try/undo, try/stop, preempt and `??` mean;
soundness of its interpreter (S5)

`Defeats E c` is `Halts (machine E) c`: continuing from `c` leads to (real) defeat whatever
the later Turing jumps do.  Each construct is a Turing jump, so the generic `jump_law` gives the
"iff would reach defeat" reading directly.
-/
namespace HidVerif.Hid
open HidVerif HidVerif.PSys

abbrev Defeats (E : Env) (c : Cfg) : Prop := Halts (machine E) c

theorem done_never_defeats (E : Env) (c : Cfg) (h : isDone c = true) : ¬ Defeats E c := by
  apply safe_not_halts (sys := machine E) (fun c => isDone c = true) _ c h
  intro c hc
  have : c.ctl = .done := by
    unfold isDone at hc; split at hc <;> simp_all
  simp [machine, step, this, hc]

/-- **S5 for the reference machine** -/
theorem interp_sound (E : Env) (fuel : Nat) (c₀ : Cfg) :
    Sound (machine E) isDone c₀ ((machine E).run isDone (fun _ => #[]) fuel c₀) :=
  run_sound isDone (done_never_defeats E) fuel c₀

section laws
variable (E : Env) (c : Cfg)

def undoBody (body : Stmt) : Cfg := { c with ctl := .exec body, kont := .tryK :: c.kont }
def undoHandler (h : Stmt) : Cfg := { c with ctl := .exec h }

theorem undo_step (body h : Stmt) (hc : c.ctl = .exec (.tryb body .undo h)) :
    (machine E).step c = .jump (undoBody c body) (undoHandler c h) := by
  simp [machine, step, hc, undoBody, undoHandler]

/-- **undo law**: exactly one of the two blocks is entered on the committed timeline — the undo
block iff running the try body (with its preempts resolved in its favour, which is what
`Defeats` means) would reach defeat; nothing of the other block is observable (`none`). -/
theorem undo_law (body h : Stmt) (hc : c.ctl = .exec (.tryb body .undo h)) :
    (Defeats E (undoBody c body) → CStep (machine E) c none (undoHandler c h)) ∧
    (¬ Defeats E (undoBody c body) → CStep (machine E) c none (undoBody c body)) :=
  jump_law (undo_step E c body h hc)

/-- preempt while defeat is real: runs iff skipping it would reach defeat -/
theorem preempt_law (body : Stmt) (hc : c.ctl = .exec (.preempt body)) (hm : c.mode = none) :
    (Defeats E { c with ctl := .ret .unit } → CStep (machine E) c none { c with ctl := .exec body }) ∧
    (¬ Defeats E { c with ctl := .ret .unit } → CStep (machine E) c none { c with ctl := .ret .unit }) := by
  have : (machine E).step c = .jump { c with ctl := .ret .unit } { c with ctl := .exec body } := by
    simp [machine, step, hc, hm]
  exact jump_law this

/-- preempt while defeat is caught by a stop handler (defeat was inevitable): always runs -/
theorem preempt_forced (body : Stmt) (sn : Snap) (hc : c.ctl = .exec (.preempt body)) (hm : c.mode = some sn) :
    CStep (machine E) c none { c with ctl := .exec body } := by
  apply CStep.next; simp [machine, step, hc, hm]

def stopReal (body : Stmt) : Cfg := { c with ctl := .exec body, kont := .tryK :: c.kont, mode := none }
def stopCaught (body h : Stmt) : Cfg :=
  { c with ctl := .exec body, kont := .tryK :: c.kont, mode := some ⟨c.env, c.kont, h⟩ }

/-- **stop law**: the body runs with defeat real, or — iff that would reach defeat — with defeat
caught by the handler, which remembers the environment and continuation of the `try` -/
theorem stop_law (body h : Stmt) (hc : c.ctl = .exec (.tryb body .stop h)) :
    (Defeats E (stopReal c body) → CStep (machine E) c none (stopCaught c body h)) ∧
    (¬ Defeats E (stopReal c body) → CStep (machine E) c none (stopReal c body)) := by
  have : (machine E).step c = .jump (stopReal c body) (stopCaught c body h) := by
    simp [machine, step, hc, stopReal, stopCaught]
  exact jump_law this

/-- a caught defeat enters the handler with the environment and continuation (hence frame and
array stack) of the `try` statement, and with defeat real again -/
theorem defeat_caught (sn : Snap) (hm : c.mode = some sn) :
    doDefeat c = .next { c with ctl := .exec sn.handler, env := sn.env, kont := sn.kont, mode := none } none := by
  simp [doDefeat, hm]

theorem defeat_real (hm : c.mode = none) : doDefeat c = .halt := by
  simp [doDefeat, hm]

/-- `a ?? b` after `b` has been evaluated to `v`: a Turing jump between evaluating `a` and
yielding `v` -/
theorem spec_law (l : Expr) (v : Val) (k : List Frame) (hc : c.ctl = .ret v) (hk : c.kont = .specR l :: k) :
    (Defeats E { c with ctl := .eval l, kont := .specL v :: k } →
        CStep (machine E) c none { c with ctl := .ret v, kont := k }) ∧
    (¬ Defeats E { c with ctl := .eval l, kont := .specL v :: k } →
        CStep (machine E) c none { c with ctl := .eval l, kont := .specL v :: k }) := by
  have : (machine E).step c = .jump { c with ctl := .eval l, kont := .specL v :: k } { c with ctl := .ret v, kont := k } := by
    simp [machine, step, hc, hk]
  exact jump_law this

/-- … and once `a` has a value: equal to `b`'s means defeat of the speculative branch (so the
jump is taken and `a`'s evaluation is never observed); different means the result is `a`'s -/
theorem spec_compare (a b : Nat) (k : List Frame) (hc : c.ctl = .ret (.num a)) (hk : c.kont = .specL (.num b) :: k) :
    (machine E).step c = if a = b then .halt else .next { c with ctl := .ret (.num a), kont := k } none := by
  by_cases h : a = b <;> simp [machine, step, hc, hk, h]

end laws
end HidVerif.Hid
