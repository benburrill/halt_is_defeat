import HidVerif.Compiler.Templates
import HidVerif.Proofs.Terminal
/-!
# What the generator's guard templates do — for every word size and all operand values

A guard is `j ok; h<c> a b; j stub; halt; ok:`.  If the condition holds the committed run is at
`ok` with memory *unchanged* (the guard is a pure observer: whatever sits between the jump and
the halt is on the path not taken); if it fails the run is in the error stub.
-/
namespace HidVerif.Sphinx
open HidVerif HidVerif.PSys HidVerif.Gen HidVerif.Compiler

section guard
variable {p : Prog} {pc ok stub : Nat} {c : HaltOp} {a b : Arg} {m : Mem} {x y : Nat}

/-- the guard passes: control is at `ok`, nothing was written, nothing emitted -/
theorem guard_pass (h : PlacedAt p pc (guardT ok c a b stub)) (hok : ok < 256 ^ p.w)
    (ha : ∀ pc', evalArg p ⟨pc', m⟩ a = some x) (hb : ∀ pc', evalArg p ⟨pc', m⟩ b = some y)
    (hc : haltCond p.M c x y = true) : Reach (sphinx p) ⟨pc, m⟩ [] ⟨ok, m⟩ :=
  jh_taken (h.get 0 rfl) (h.get 1 rfl) hok (ha _) (hb _) hc

/-- the guard fails: the committed run goes to the stub (which never halts), memory unchanged -/
theorem guard_fail (h : PlacedAt p pc (guardT ok c a b stub)) (hok : ok < 256 ^ p.w) (hst : stub < 256 ^ p.w)
    (ha : ∀ pc', evalArg p ⟨pc', m⟩ a = some x) (hb : ∀ pc', evalArg p ⟨pc', m⟩ b = some y)
    (hc : haltCond p.M c x y = false) (hstub : ¬ Halts (sphinx p) ⟨stub, m⟩) :
    Exec (sphinx p) ⟨pc, m⟩ [] ⟨stub, m⟩ ∧ ¬ Halts (sphinx p) ⟨pc, m⟩ := by
  -- the halt does not fire, so the not-taken side runs into the stub and never halts
  have r12 : Reach (sphinx p) ⟨pc + 1, m⟩ [] ⟨stub, m⟩ :=
    (hcond_pass (h.get 1 rfl) (ha _) (hb _) hc).trans
      (jump_halt (h.get 2 rfl) (h.get 3 rfl) (ev_imm_lt hst))
  exact (Reach.jump_over (sys := sphinx p) (step_j (h.get 0 rfl) (ev_imm_lt hok)) r12 hstub).exec hstub
end guard

end HidVerif.Sphinx
