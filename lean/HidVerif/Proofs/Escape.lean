import HidVerif.Gen.Funcs
import HidVerif.Sphinx.Asm
/-!
# C13 — `_escape_bytes` and the assembler's unescaping are inverse, for every byte string

`Gen.escapeByte` is the transcription of `hidc.codegen.asm._escape_bytes` regenerated on every
run; `Asm.unescape` is what the (assumed, A8) Sphinx assembler accepts inside string and
character literals.
-/
namespace HidVerif.Sphinx
open HidVerif.Gen HidVerif.Sphinx.Asm

def chars (l : List Nat) : Line := l.map Char.ofNat

/-- decoding the escaped form of one byte yields that byte and consumes exactly its escape -/
def unitOk (q b : Nat) : Bool :=
  match unescapeStep (Char.ofNat q) (chars (escapeByte [q] b)) with
  | .ok (v, rest) => v == b && rest.isEmpty
  | .error _ => false

/-- all 256 byte values, both quote characters: a complete enumeration (kernel-evaluated) -/
theorem unit_table : ∀ q ∈ [34, 39], ∀ b < 256, unitOk q b = true := by decide +kernel

theorem unescapeStep_append (quote : Char) (u rest : Line) (v : Nat)
    (h : unescapeStep quote u = .ok (v, [])) : unescapeStep quote (u ++ rest) = .ok (v, rest) := by
  unfold unescapeStep at h ⊢
  match u with
  | [] => simp at h
  | c :: t =>
    simp only [List.cons_append] at h ⊢
    by_cases hc : (c == '\\') = true
    · simp only [hc, if_true] at h ⊢
      match t with
      | [] => simp at h
      | d :: t' =>
        simp only [List.cons_append] at h ⊢
        by_cases hd : (d == 'x') = true
        · simp only [hd, if_true] at h ⊢
          match t' with
          | [] => simp at h
          | [a] => simp at h
          | a :: b :: t'' =>
            simp only [List.cons_append] at h ⊢
            cases e1 : hexVal a <;> cases e2 : hexVal b <;> simp_all
        · simp only [hd, Bool.false_eq_true, if_false] at h ⊢
          cases e : simpleEscape d <;> simp_all
    · simp only [hc, Bool.false_eq_true, if_false] at h ⊢
      by_cases hq : (c == quote) = true
      · simp [hq] at h
      · simp only [hq, Bool.false_eq_true, if_false] at h ⊢
        by_cases hp : (decide (c.toNat < 0x20) || decide (c.toNat > 0x7e)) = true
        · simp [hp] at h
        · simp only [hp, Bool.false_eq_true, if_false] at h ⊢
          simp_all

theorem unit_step (q b : Nat) (hq : q ∈ [34, 39]) (hb : b < 256) (rest : Line) :
    unescapeStep (Char.ofNat q) (chars (escapeByte [q] b) ++ rest) = .ok (b, rest) := by
  have h := unit_table q hq b hb
  unfold unitOk at h
  split at h
  · rename_i v r heq
    simp only [Bool.and_eq_true, beq_iff_eq, List.isEmpty_iff] at h
    obtain ⟨rfl, rfl⟩ := h
    exact unescapeStep_append _ _ _ _ heq
  · simp at h

theorem escapeByte_ne_nil (q b : Nat) (hq : q ∈ [34, 39]) (hb : b < 256) : escapeByte [q] b ≠ [] := by
  intro hnil
  have h := unit_table q hq b hb
  simp [unitOk, hnil, chars, unescapeStep] at h

/-- **round trip**: unescaping the escaped form of any byte string gives the string back -/
theorem unescapeFuel_escapeBytes (q : Nat) (hq : q ∈ [34, 39]) (bs : List Nat) (hbs : ∀ b ∈ bs, b < 256) :
    ∀ n, (chars (escapeBytes bs [q])).length ≤ n →
      unescapeFuel (Char.ofNat q) n (chars (escapeBytes bs [q])) = .ok bs := by
  induction bs with
  | nil => intro n _; cases n <;> simp [escapeBytes, chars, unescapeFuel]
  | cons b bs ih =>
    intro n hn
    have hb : b < 256 := hbs b (by simp)
    have hne := escapeByte_ne_nil q b hq hb
    have hsplit : chars (escapeBytes (b :: bs) [q]) = chars (escapeByte [q] b) ++ chars (escapeBytes bs [q]) := by
      simp [escapeBytes, chars]
    rw [hsplit] at hn ⊢
    have hlen : 0 < (chars (escapeByte [q] b)).length := by
      cases h : escapeByte [q] b with
      | nil => exact absurd h hne
      | cons _ _ => simp [chars]
    match n, hn with
    | 0, hn => rw [List.length_append] at hn; omega
    | n + 1, hn =>
      have hnonempty : chars (escapeByte [q] b) ++ chars (escapeBytes bs [q]) ≠ [] := by
        intro h; simp at h; have := h.1; simp [chars] at this; exact hne this
      have step := unit_step q b hq hb (chars (escapeBytes bs [q]))
      have hrec := ih (fun x hx => hbs x (by simp [hx])) n (by rw [List.length_append] at hn; omega)
      cases hl : chars (escapeByte [q] b) ++ chars (escapeBytes bs [q]) with
      | nil => exact absurd hl hnonempty
      | cons c t =>
        rw [hl] at step
        simp only [unescapeFuel, step]
        show (do let r ← unescapeFuel (Char.ofNat q) n (chars (escapeBytes bs [q])); pure (b :: r)) = _
        rw [hrec]; rfl

theorem escape_roundtrip (q : Nat) (hq : q ∈ [34, 39]) (bs : List Nat) (hbs : ∀ b ∈ bs, b < 256) :
    unescape (Char.ofNat q) (chars (escapeBytes bs [q])) = .ok bs :=
  unescapeFuel_escapeBytes q hq bs hbs _ (Nat.le_refl _)

end HidVerif.Sphinx
