import HidVerif.Proofs.CoreExecDefs
/-!
# Core compiler proofs: `try { … } stop { … }`

The block saves `ap` in a frame slot and `fp` in the word `try_fp`, stores the address of the
handler in the word `defeat`, and asks the machine with one Turing jump whether the body, run with
`defeat = halt`, would halt.  Inside the body `!is_defeat()` is `j [defeat]; halt`.  If the body would
be defeated the jump is taken, the body runs with `defeat = handler`, and the defeat call lands in the
handler with everything the body did still in place; otherwise the body runs in the world in which
every defeat call halts, and none is reached.
-/
namespace HidVerif.Core
open HidVerif HidVerif.PSys HidVerif.Sphinx HidVerif.Gen

section
variable {p : Prog} {ck : Bool} {B : Nat} {dA : Nat} {fa : FAddr} {fns : List FDecl}

/-- rewriting `fp` or `ap` with the value it has changes nothing that `Keep` looks at -/
theorem keep_reg (m : Mem) (r v a : Nat) (hw : 1 ≤ p.w) (hr : r = 0 ∨ r = p.w) (hv : m.readLE r p.w = v) (hv' : v < 256 ^ p.w)
    (hsz : 2 * p.w ≤ m.size) (ha : 2 * p.w ≤ a) : Keep p.w m (m.writeLE r p.w v) a := by
  have hsame : (m.writeLE r p.w v).readLE r p.w = v := by
    rw [Mem.readLE_writeLE_same _ _ _ _ (by rcases hr with h | h <;> omega)]; exact Nat.mod_eq_of_lt hv'
  refine ⟨by simp, ?_, ?_, fun x hx => Mem.rd_writeLE_other _ _ _ _ _ (by rcases hr with h | h <;> omega)⟩
  · rcases hr with h | h
    · rw [Mem.readLE_writeLE_disj _ _ _ _ _ _ (by omega)]
    · subst h; rw [hsame, hv]
  · rcases hr with h | h
    · subst h; rw [hsame, hv]
    · rw [Mem.readLE_writeLE_disj _ _ _ _ _ _ (by omega)]

theorem defeat_fp_written {w F H : Nat} {m : Mem} (hw : 2 ≤ w) (hF : 5 * w ≤ F) (hsz : F + 2 * w ≤ m.size) (hFM : F < 256 ^ w)
    (hH : H < 256 ^ w) :
    ((m.writeLE (F + w) w H).writeLE w w F).size = m.size ∧ ((m.writeLE (F + w) w H).writeLE w w F).readLE w w = F ∧
    ((m.writeLE (F + w) w H).writeLE w w F).readLE 0 w = m.readLE 0 w ∧
    ((m.writeLE (F + w) w H).writeLE w w F).readLE (F + w) w = H ∧ (m.writeLE (F + w) w H).readLE F w = m.readLE F w ∧
    ∀ x, 2 * w ≤ x → x < F + w ∨ F + 2 * w ≤ x → ((m.writeLE (F + w) w H).writeLE w w F).rd x = m.rd x := by
  refine ⟨by simp, ?_, ?_, ?_, ?_, fun x h1 h2 => ?_⟩
  · rw [Mem.readLE_writeLE_same _ _ _ _ (by simp; omega)]; exact Nat.mod_eq_of_lt hFM
  · rw [Mem.readLE_writeLE_disj _ _ _ _ _ _ (by omega), Mem.readLE_writeLE_disj _ _ _ _ _ _ (by omega)]
  · rw [Mem.readLE_writeLE_disj _ _ _ _ _ _ (by omega), Mem.readLE_writeLE_same _ _ _ _ (by omega)]; exact Nat.mod_eq_of_lt hH
  · rw [Mem.readLE_writeLE_disj _ _ _ _ _ _ (by omega)]
  · rw [Mem.rd_writeLE_other _ _ _ _ _ (by omega), Mem.rd_writeLE_other _ _ _ _ _ (by omega)]

/-- the start of the handler of a `try/stop` (`mJ`: the memory at the Turing jump): `defeat := halt`, `fp := try_fp`
(the defeat may have happened in a callee), `ap :=` the value saved in the frame -/
theorem tryStop_pro (lib : Placed p B) {md : Md} {F D ra o pc : Nat} {Γ : Gam} {env env1 : Env} {m mJ : Mem}
    (hinv : SInv p md Γ env m F D o ra) (ho : p.w ≤ o) (hoW : o + p.w ≤ D)
    (hapn : (Γ.map Prod.fst).contains "%ap" = false) (hap : env1 "%ap" = 5 * p.w)
    (hsz : F + 2 * p.w ≤ m.size) (hFM2 : F + 2 * p.w < 256 ^ p.w)
    (c0 : p.code[pc]? = some (.mov (F + p.w) (.imm (B + off_halt)))) (c1 : p.code[pc + 1]? = some (.mov p.w (.st F)))
    (c2 : p.code[pc + 2]? = some (ldSlot (cxOf p ck B (F + p.w)) 0 (o + p.w)))
    (hszJ : mJ.size = m.size) (htJ : mJ.readLE F p.w = F) (kmJ : Keep p.w m mJ (F + 2 * p.w)) :
    ∀ m1, SInvD p (.stop (F + p.w) pc) (("%ap", o + p.w) :: Γ) env1 m1 F D (o + p.w) ra → KeepD p.w mJ m1 F →
      ∃ m3, Reach (sphinx p) ⟨pc, m1⟩ [] ⟨pc + 3, m3⟩ ∧ SInv p .plain Γ env1 m3 F D o ra ∧
        Keep p.w m m3 ((Md.you (some (F + p.w, B + off_halt))).kb F p.w) ∧ DReg p (.you (some (F + p.w, B + off_halt))) m3 F := by
  have hw := lib.hw
  have h64 := mul_w_lt_pow p.w hw
  have fr := hinv.fr
  have hroom := fr.room; have hFM := fr.lt
  have hhaltM := halt_lt lib
  have w25 : 2 * p.w ≤ 5 * p.w := Nat.mul_le_mul_right _ (by decide)
  have b5 : 5 * p.w ≤ F := hroom ▸ Nat.le_add_right _ _
  have e2w : F + p.w + p.w = F + 2 * p.w := by omega
  -- `A`: the address of the slot that keeps `ap`
  obtain ⟨A, _, hA, _, _, hA5, hAF, conv⟩ := callee_frame hroom hoW
  intro m1 hi1 kJ1
  have hsz1 : F + 2 * p.w ≤ m1.size := by rw [kJ1.size, hszJ]; exact hsz
  -- `try_fp` still holds the frame pointer of the `try`: nothing above the frame was touched
  have ht1 : m1.readLE F p.w = F := by rw [kJ1.read _ _ (Nat.le_refl _)]; exact htJ
  obtain ⟨hsz2, hfp2, hap2, hdef2, hFd, hlo2⟩ := defeat_fp_written (H := B + off_halt) hw b5 hsz1 hFM hhaltM
  have hM1 : F + p.w < p.M ∧ F < p.M ∧ p.w < p.M := by unfold Prog.M; omega
  have t0 := step_mov (m := m1) c0 (ev_imm_lt hhaltM) hM1.1 (e2w ▸ hsz1)
  have t1 := step_mov (m := m1.writeLE (F + p.w) p.w (B + off_halt)) c1
    (by rw [ev_st hM1.2.1 (by simp; omega), hFd, ht1]) hM1.2.2 (by simp; omega)
  generalize hm2 : (m1.writeLE (F + p.w) p.w (B + off_halt)).writeLE p.w p.w F = m2 at t1 hsz2 hfp2 hap2 hdef2 hlo2
  have htop2 : F ≤ m2.size := by rw [hsz2]; exact Nat.le_trans (Nat.le_add_right _ _) hsz1
  have fr2 : Fr p m2 F D := ⟨hfp2, hap2.trans hi1.ap, htop2, hFM, hroom⟩
  have t2 := step_ldSlot ck B 0 (o + p.w) hw fr2 (pc := pc + 1 + 1) c2 (Nat.le_add_left _ _) hoW (by rw [Nat.zero_add]; exact Nat.le_mul_of_pos_left _ (by decide))
  rw [(conv ()).2.1] at t2
  have hslot : m2.readLE A p.w = 5 * p.w := by
    have e2 : m2.readLE A p.w = m1.readLE A p.w :=
      Mem.readLE_congr _ _ _ _ (fun y h1 h2 => hlo2 y (Nat.le_trans (Nat.le_trans w25 hA5) h1) (Or.inl (Nat.lt_of_lt_of_le h2 (Nat.le_trans hAF (Nat.le_add_right _ _)))))
    have := (hi1.vars "%ap" (by simp)).2.2
    rw [look_cons_same, (conv ()).2.1] at this; rw [e2, this, hap]
  rw [hslot] at t2
  have k23 : Keep p.w m2 (m2.writeLE 0 p.w (5 * p.w)) (2 * p.w) :=
    keep_reg m2 0 (5 * p.w) _ (Nat.le_of_succ_le hw) (Or.inl rfl) fr2.ap (Nat.lt_of_le_of_lt (Nat.mul_le_mul_right _ (by decide)) h64) (Nat.le_trans (Nat.le_trans w25 b5) htop2) (Nat.le_refl _)
  generalize hm3 : m2.writeLE 0 p.w (5 * p.w) = m3 at t2 k23
  have fr3 := fr2.keep k23
  have hsz3 : m3.size = m.size := by rw [k23.size, hsz2, kJ1.size, hszJ]
  have rp := (Reach.of_next (sys := sphinx p) t0).trans ((Reach.of_next (sys := sphinx p) t1).trans (Reach.of_next (sys := sphinx p) t2))
  refine ⟨m3, by simpa [evl, Nat.add_assoc] using rp, ?_, ?_, ?_⟩
  · refine (decl_backD (hinv.toMd rfl) "%ap" ⟨hi1.ap, hi1.top, hi1.lt, hi1.room, hi1.vars, hi1.ra, DReg.none rfl⟩ hapn :
      SInvD p .plain Γ env1 m1 F D o ra).same ho (Nat.le_trans (Nat.le_add_right _ _) hoW) (by rw [k23.size, hsz2]) fr3.fp fr3.ap (fun x h5 hx => ?_) (fun a v e => by cases e)
    rw [k23.hi x (Nat.le_trans w25 h5), hlo2 x (Nat.le_trans w25 h5) (Or.inl (Nat.lt_of_lt_of_le hx (Nat.le_add_right _ _)))]
  · refine ⟨hsz3, by rw [fr3.fp, fr.fp], by rw [fr3.ap, fr.ap], fun x hx => ?_⟩
    have hx' : F + 2 * p.w ≤ x := hx
    rw [k23.hi x (Nat.le_trans (Nat.le_add_left _ _) hx'), hlo2 x (Nat.le_trans (Nat.le_add_left _ _) hx') (Or.inr hx'),
      kJ1.hi x (Nat.le_trans (Nat.le_add_right _ _) hx'), kmJ.hi x hx']
  · intro a v e
    cases e
    refine ⟨Nat.le_refl _, by rw [hsz3, e2w]; exact hsz, by rw [e2w]; exact hFM2, ?_, hhaltM⟩
    rw [k23.read _ _ (Nat.le_trans (Nat.le_trans w25 b5) (Nat.le_add_right _ _))]; exact hdef2

theorem word_behind_frame {w F a H : Nat} {m : Mem} (hF : 5 * w ≤ F) (hFa : F ≤ a) (haF : a + w ≤ F + 2 * w)
    (hsz : F + 2 * w ≤ m.size) (hH : H < 256 ^ w) :
    (m.writeLE a w H).size = m.size ∧ (∀ x, x < a → (m.writeLE a w H).rd x = m.rd x) ∧ (m.writeLE a w H).readLE a w = H ∧
    Keep w m (m.writeLE a w H) (F + 2 * w) := by
  refine ⟨by simp, fun x hx => Mem.rd_writeLE_other _ _ _ _ _ (Or.inl hx), ?_, Keep.write _ _ _ _ _ _ (by omega) haF⟩
  rw [Mem.readLE_writeLE_same _ _ _ _ (by omega)]; exact Nat.mod_eq_of_lt hH

/-- the entry of a `try/stop`: `m3` at the Turing jump (`defeat` holds the handler address), `m4` behind the fall-through
instruction (`defeat` holds the address of `halt`) -/
theorem tryStop_enter (lib : Placed p B) {md : Md} {F D ra o pc hA : Nat} {Γ : Gam} {env : Env} {m : Mem}
    (hinv : SInv p md Γ env m F D o ra) (hd : Disj p.w Γ) (ho : p.w ≤ o) (hoW : o + p.w ≤ D)
    (hapn : (Γ.map Prod.fst).contains "%ap" = false) (hsz : F + 2 * p.w ≤ m.size) (hFM2 : F + 2 * p.w < 256 ^ p.w)
    (hhA : hA < 256 ^ p.w) (hpc : pc + 5 < 256 ^ p.w)
    (c0 : p.code[pc]? = some (stSlot (cxOf p ck B (F + p.w)) (o + p.w) (.st 0))) (c1 : p.code[pc + 1]? = some (.mov F (.st p.w)))
    (c2 : p.code[pc + 2]? = some (.mov (F + p.w) (.imm hA))) (c3 : p.code[pc + 3]? = some (.j (.imm (pc + 5))))
    (c4 : p.code[pc + 4]? = some (.mov (F + p.w) (.imm (B + off_halt)))) :
    ∃ m3 m4, Reach (sphinx p) ⟨pc, m⟩ [] ⟨pc + 3, m3⟩ ∧ Sphinx.step p ⟨pc + 3, m3⟩ = .jump ⟨pc + 3 + 1, m3⟩ ⟨pc + 5, m3⟩ ∧
      Reach (sphinx p) ⟨pc + 3 + 1, m3⟩ [] ⟨pc + 5, m4⟩ ∧ Keep p.w m m3 (F + 2 * p.w) ∧ Keep p.w m m4 (F + 2 * p.w) ∧
      m3.size = m.size ∧ m3.readLE F p.w = F ∧ Disj p.w (("%ap", o + p.w) :: Γ) ∧
      SInv p (.stop (F + p.w) hA) (("%ap", o + p.w) :: Γ) (upd env "%ap" (5 * p.w)) m3 F D (o + p.w) ra ∧
      SInv p (.stop (F + p.w) (B + off_halt)) (("%ap", o + p.w) :: Γ) (upd env "%ap" (5 * p.w)) m4 F D (o + p.w) ra := by
  have hw := lib.hw
  have h64 := mul_w_lt_pow p.w hw
  have fr := hinv.fr
  have hroom := fr.room; have htop := fr.top; have hFM := fr.lt
  have hhaltM := halt_lt lib
  have b5 : 5 * p.w ≤ F := hroom ▸ Nat.le_add_right _ _
  have e2w : F + p.w + p.w = F + 2 * p.w := by omega
  have bw : 0 + p.w ≤ F ∧ p.w + p.w ≤ F := by omega
  have wF : ∀ {x}, x < F → x < F + p.w := fun hx => Nat.lt_of_lt_of_le hx (Nat.le_add_right _ _)
  obtain ⟨A, _, _, _, _, hA5, hAF, conv⟩ := callee_frame hroom hoW
  have s0 := step_stSlot ck B (o + p.w) (.st 0) (5 * p.w) hw fr c0 (by rw [fr.ev_st hw (Nat.le_trans (Nat.le_of_eq (Nat.zero_add _)) (Nat.le_mul_of_pos_left _ (by decide))), fr.ap]) (Nat.le_add_left _ _) hoW
  have k1 : Keep p.w m (m.writeLE (F - (o + p.w)) p.w (5 * p.w)) (F - o) := by
    rw [(conv ()).1, (conv ()).2.1]; exact Keep.write _ _ _ _ _ _ (Nat.le_trans (Nat.mul_le_mul_right _ (by decide)) hA5) (Nat.le_refl _)
  have hval1 : (m.writeLE (F - (o + p.w)) p.w (5 * p.w)).readLE (F - (o + p.w)) p.w = 5 * p.w := by
    rw [(conv ()).2.1, Mem.readLE_writeLE_same _ _ _ _ (Nat.le_trans hAF htop)]
    exact Nat.mod_eq_of_lt (Nat.lt_of_le_of_lt (Nat.mul_le_mul_right _ (by decide)) h64)
  generalize hm1 : m.writeLE (F - (o + p.w)) p.w (5 * p.w) = m1 at s0 k1 hval1
  obtain ⟨hinv1, hd1⟩ := decl_inv hinv hd "%ap" (5 * p.w) k1 hval1 hapn ho
  have fr1 := hinv1.fr
  have hsz1 : F + 2 * p.w ≤ m1.size := by rw [k1.size]; exact hsz
  have mk : ∀ (mm : Mem) (v : Nat), mm.size = m1.size → (∀ x, x < F → mm.rd x = m1.rd x) → mm.readLE F p.w = F →
      mm.readLE (F + p.w) p.w = v → v < 256 ^ p.w →
      SInv p (.stop (F + p.w) v) (("%ap", o + p.w) :: Γ) (upd env "%ap" (5 * p.w)) mm F D (o + p.w) ra := by
    intro mm v hs hlo ht hv hvM
    refine hinv1.same (Nat.le_add_left _ _) hoW hs ?_ ?_ (fun x _ hx => hlo x hx) ?_
    · rw [← fr1.fp]; exact Mem.readLE_congr _ _ _ _ (fun x h1 h2 => hlo x (Nat.lt_of_lt_of_le h2 bw.2))
    · rw [← fr1.ap]; exact Mem.readLE_congr _ _ _ _ (fun x h1 h2 => hlo x (Nat.lt_of_lt_of_le h2 bw.1))
    · intro a v' e
      cases e
      exact ⟨Nat.le_refl _, by rw [hs, e2w]; exact hsz1, by rw [e2w]; exact hFM2, hv, hvM⟩
  obtain ⟨hs2, hlo2, ht2, k12⟩ := word_behind_frame (a := F) (H := F) b5 (Nat.le_refl _) (Nat.add_le_add_left (Nat.le_mul_of_pos_left _ (by decide)) _) hsz1 hFM
  have hM1 : F + p.w < p.M ∧ F < p.M := by unfold Prog.M; omega
  have hsz1' : F + p.w + p.w ≤ m1.size := e2w ▸ hsz1
  have s1 := step_mov (m := m1) c1 (fr1.ev_fp hw) hM1.2 (Nat.le_trans (Nat.le_add_right _ _) hsz1')
  generalize hm2 : m1.writeLE F p.w F = m2 at s1 hs2 hlo2 ht2 k12
  obtain ⟨hs3, hlo3, hv3, k23⟩ := word_behind_frame (a := F + p.w) (H := hA) (m := m2) b5 (Nat.le_add_right _ _) (Nat.le_of_eq e2w) (by rw [hs2]; exact hsz1) hhA
  have s2 := step_mov (m := m2) c2 (ev_imm_lt hhA) hM1.1 (by rw [hs2]; exact hsz1')
  generalize hm3 : m2.writeLE (F + p.w) p.w hA = m3 at s2 hs3 hlo3 hv3 k23
  obtain ⟨hs4, hlo4, hv4, k34⟩ := word_behind_frame (a := F + p.w) (H := B + off_halt) (m := m3) b5 (Nat.le_add_right _ _) (Nat.le_of_eq e2w) (by rw [hs3, hs2]; exact hsz1) hhaltM
  have s3 := step_j (m := m3) c3 (ev_imm_lt hpc)
  have s4 := step_mov (m := m3) c4 (ev_imm_lt hhaltM) hM1.1 (by rw [hs3, hs2]; exact hsz1')
  generalize hm4 : m3.writeLE (F + p.w) p.w (B + off_halt) = m4 at s4 hs4 hlo4 hv4 k34
  have ht3 : m3.readLE F p.w = F := (Mem.readLE_congr _ _ _ _ (fun x h1 h2 => hlo3 x h2)).trans ht2
  have hlo13 : ∀ x, x < F → m3.rd x = m1.rd x := fun x hx => (hlo3 x (wF hx)).trans (hlo2 x hx)
  have k1' := k1.mono (Nat.le_trans (Nat.sub_le _ _) (Nat.le_add_right F (2 * p.w)))
  refine ⟨m3, m4, ?_, s3, by simpa [evl] using Reach.of_next (sys := sphinx p) s4,
    (k1'.trans' k12).trans' k23, ((k1'.trans' k12).trans' k23).trans' k34,
    by rw [hs3, hs2, k1.size], ht3, hd1, mk m3 hA (by rw [hs3, hs2]) hlo13 ht3 hv3 hhA,
    mk m4 (B + off_halt) (by rw [hs4, hs3, hs2]) (fun x hx => (hlo4 x (wF hx)).trans (hlo13 x hx))
      ((Mem.readLE_congr _ _ _ _ (fun x h1 h2 => hlo4 x h2)).trans ht3) hv4 hhaltM⟩
  simpa [evl] using (Reach.of_next (sys := sphinx p) s0).trans ((Reach.of_next (sys := sphinx p) s1).trans (Reach.of_next (sys := sphinx p) s2))

theorem tryStop_ok (lib : Placed p B) (fok : FnsOK p ck B dA fa fns) (f : Nat) (ih : StmtOK p ck B dA fa fns f)
    (F D ra : Nat) (hra : ra < 256 ^ p.w) (lp : Jt) (hlp : lp.cont < 256 ^ p.w ∧ lp.brk < 256 ^ p.w) (md : Md) (sb dc : Bool)
    (body handler k : S) (Γ : Gam) (env : Env) (pc o : Nat) (m : Mem) (env' : Env) (tr : List Ev) (res : Res)
    (hpl : PlacedAt p pc (cS (cxOf p ck B dA) fa lp Γ pc o (.tryStop body handler k)))
    (hB : pc + (cS (cxOf p ck B dA) fa lp Γ pc o (.tryStop body handler k)).length ≤ B)
    (hinv : SInv p md Γ env m F D o ra) (hd : Disj p.w Γ) (hwf : wfS fns dc (Γ.map Prod.fst) (.tryStop body handler k) = true)
    (hpk : pkS p.w o (.tryStop body handler k) ≤ D) (ho : p.w ≤ o)
    (hex : exec (256 ^ p.w) (8 * p.w) fns p.w (f + 1) D o env (.tryStop body handler k) = some (env', tr, res))
    (hck : FaultOK ck fns p.w res)
    (hs : Safe p B dA ra lp md sb dc fns Γ env' F D o (pc + (cS (cxOf p ck B dA) fa lp Γ pc o (.tryStop body handler k)).length) m res
      (.tryStop body handler k)) :
    Concl p B ra lp md Γ env' F D o pc (pc + (cS (cxOf p ck B dA) fa lp Γ pc o (.tryStop body handler k)).length) m tr res := by
  have hw := lib.hw
  rcases hs with ⟨_, _, h, _⟩ | ⟨hmd, hvd, h1, hst, h2⟩
  · simp [noTry] at h
  · simp only [youLevel, Bool.and_eq_true] at h1
    obtain ⟨⟨⟨hsbT, hntb⟩, hplh⟩, hyk⟩ := h1
    obtain ⟨hdA, hsz, hFM2, hmdw⟩ := hst hsbT
    obtain ⟨_, hdc0, hsf⟩ := hmd
    subst hmdw
    subst hdc0
    simp only [wfS, Bool.and_eq_true, Bool.not_eq_true'] at hwf
    obtain ⟨⟨⟨hapn, hwb⟩, hwh⟩, hwk⟩ := hwf
    simp only [pkS, Nat.max_le] at hpk
    obtain ⟨hoW, hpkB, hpkH, hpkK⟩ := hpk
    subst hdA
    simp only [cS, Nat.add_sub_cancel] at hpl hB h2 ⊢
    have hlenB : ∀ a, (cS (cxOf p ck B (F + p.w)) fa { cont := lp.cont, brk := lp.brk, vd := true } (("%ap", o + p.w) :: Γ) a
        (o + p.w) body).length = lenS ck true body := fun _ => cS_len _ _ _ _ _ _ _
    have hlenH : ∀ a, (cS (cxOf p ck B (F + p.w)) fa lp Γ a o handler).length = lenS ck lp.vd handler :=
      fun _ => cS_len _ _ _ _ _ _ _
    generalize hnB : lenS ck true body = nB at *
    generalize hnH : lenS ck lp.vd handler = nH at *
    obtain ⟨hpl12345, hplK⟩ := hpl.append
    obtain ⟨hpl1234, hplH⟩ := hpl12345.append
    obtain ⟨hpl123, hplP⟩ := hpl1234.append
    obtain ⟨hpl12, hplG⟩ := hpl123.append
    obtain ⟨hplA, hplB⟩ := hpl12.append
    simp only [List.length_append, List.length_cons, List.length_nil, hlenB, hlenH, goto_len, ← Nat.add_assoc, Nat.zero_add]
      at hB hplK hplH hplP hplG hplB h2 ⊢
    have c0 := hplA 0 (by simp); have c1 := hplA 1 (by simp); have c2 := hplA 2 (by simp)
    have c3 := hplA 3 (by simp); have c4 := hplA 4 (by simp)
    have d0 := hplP 0 (by simp); have d1 := hplP 1 (by simp); have d2 := hplP 2 (by simp)
    simp only [List.getElem_cons_succ, List.getElem_cons_zero, Nat.add_zero] at c0 c1 c2 c3 c4 d0 d1 d2
    rw [show (cxOf p ck B (F + p.w)).fp = p.w from rfl] at c1 d1
    have hBH : pc + 5 + nB + 2 + 3 + nH ≤ B := Nat.le_trans (Nat.le_add_right _ _) hB
    have hendM := code_lt lib hBH
    have fr := hinv.fr
    obtain ⟨m3, m4, r03, s3, r45, km3, km4, hsz3, ht3, hd1, hi3, hi4⟩ := tryStop_enter (ck := ck) lib hinv hd ho hoW hapn hsz hFM2
      (code_lt lib (Nat.le_trans (Nat.le_add_right_of_le (Nat.le_add_right _ _)) hBH))
      (code_lt lib (Nat.le_trans (Nat.le_add_right_of_le (Nat.le_add_right_of_le (Nat.le_add_right_of_le (Nat.le_add_right _ _)))) hBH)) c0 c1 c2 c3 c4
    have hbody : ∀ (mm : Mem) (v : Nat),
        SInv p (.stop (F + p.w) v) (("%ap", o + p.w) :: Γ) (upd env "%ap" (5 * p.w)) mm F D (o + p.w) ra →
        ∀ (env1 : Env) (tr1 : List Ev) (res1 : Res),
          exec (256 ^ p.w) (8 * p.w) fns p.w f D (o + p.w) (upd env "%ap" (5 * p.w)) body = some (env1, tr1, res1) →
          FaultOK ck fns p.w res1 →
          (HaltW p (.stop (F + p.w) v) ∨
            ∀ st', Post p B ra { cont := lp.cont, brk := lp.brk, vd := true } (.stop (F + p.w) v) (("%ap", o + p.w) :: Γ) env1 F D (o + p.w)
              (pc + 5 + nB) mm res1 st' → ¬ Halts (sphinx p) st') →
          Concl p B ra { cont := lp.cont, brk := lp.brk, vd := true } (.stop (F + p.w) v) (("%ap", o + p.w) :: Γ) env1 F D (o + p.w)
            (pc + 5) (pc + 5 + nB) mm tr1 res1 := by
      intro mm v hi env1 tr1 res1 hb1 hfo hwld
      have := ih F D ra hra { cont := lp.cont, brk := lp.brk, vd := true } hlp (.stop (F + p.w) v) sb true body (("%ap", o + p.w) :: Γ)
        (upd env "%ap" (5 * p.w)) (pc + 5) (o + p.w) mm env1 tr1 res1 hplB (by rw [hlenB]; exact Nat.le_trans (Nat.le_add_right_of_le (Nat.le_add_right_of_le (Nat.le_add_right _ _))) hBH) hi hd1 (by simpa using hwb)
        hpkB (Nat.le_add_left _ _) hb1 hfo (Or.inl ⟨rfl, ⟨(fun _ => ⟨v, rfl⟩), (fun _ => Or.inl ⟨v, rfl⟩)⟩, hntb,
          hwld.imp id (fun h => ⟨rfl, by rw [hlenB]; exact h⟩)⟩)
      rwa [hlenB] at this
    have hW4 : HaltW p (.stop (F + p.w) (B + off_halt)) := HaltW.halt lib
    have back : ∀ (env1 : Env) (mm : Mem),
        SInv p (.stop (F + p.w) (B + off_halt)) (("%ap", o + p.w) :: Γ) env1 mm F D (o + p.w) ra →
        SInv p (.you (some (F + p.w, B + off_halt))) Γ env1 mm F D o ra :=
      fun env1 mm h => decl_back hinv "%ap" (h.reMd rfl) hapn
    have convS : ∀ (env1 : Env) (res1 : Res), res1 ≠ .norm → res1 ≠ .defeat → ∀ (e1 e2 : Nat) (mm : Mem) st',
        Post p B ra { cont := lp.cont, brk := lp.brk, vd := true } (.stop (F + p.w) (B + off_halt)) (("%ap", o + p.w) :: Γ) env1 F D (o + p.w) e1 mm res1 st' →
        Post p B ra lp (.you (some (F + p.w, B + off_halt))) Γ env1 F D o e2 mm res1 st' := by
      intro env1 res1 hn hdf e1 e2 mm st' h
      have hk : ∀ {m' : Mem}, Keep p.w mm m' (Md.kb (.stop (F + p.w) (B + off_halt)) F p.w) → Keep p.w mm m' ((Md.you (some (F + p.w, B + off_halt))).kb F p.w) :=
        fun k => k.mono (by simp [Md.kb])
      cases res1 with
      | norm => exact absurd rfl hn
      | defeat => exact absurd rfl hdf
      | returned => exact ⟨h.1, hk h.2⟩
      | retv x => exact ⟨h.1, hk h.2.1, h.2.2⟩
      | div0 => exact h
      | ovf => exact h
      | brk => exact ⟨h.1, back _ _ h.2.1, hk h.2.2⟩
      | cnt => exact ⟨h.1, back _ _ h.2.1, hk h.2.2⟩
    have contK : ∀ {env1 : Env} {m1 : Mem} {env3 : Env} {tr3 : List Ev} {res3 : Res},
        SInv p (.you (some (F + p.w, B + off_halt))) Γ env1 m1 F D o ra → Keep p.w m m1 ((Md.you (some (F + p.w, B + off_halt))).kb F p.w) →
        exec (256 ^ p.w) (8 * p.w) fns p.w f D o env1 k = some (env3, tr3, res3) → FaultOK ck fns p.w res3 → _ :=
      fun hi1 km1 hk hck3 => you_rest ih hra hlp hvd hsf hyk (fun _ => ⟨rfl, hsz, hFM2, rfl⟩) hplK rfl hB hd hwk hpkK ho hi1 km1 hk hck3
    rw [exec_tryStop] at hex
    obtain ⟨⟨env1, tr1, res1⟩, hb1, hex⟩ := bind_some hex
    dsimp only at hex
    by_cases hdft : res1 = .defeat
    · subst hdft
      rw [if_pos rfl] at hex
      by_cases hap' : env1 "%ap" ≠ 5 * p.w
      · rw [if_pos hap'] at hex; cases hex
      rw [if_neg hap'] at hex
      have hap : env1 "%ap" = 5 * p.w := Decidable.of_not_not hap'
      have pro := tryStop_pro (ck := ck) lib hinv ho hoW hapn hap hsz hFM2 d0 d1 d2 hsz3 ht3 km3
      -- given what happens from the handler on, in any such state: the two runs of the body
      have close : ∀ (trA : List Ev) (envF : Env) (resF : Res), resF ≠ .defeat →
          (∀ st', Post p B ra lp (.you (some (F + p.w, B + off_halt))) Γ envF F D o (pc + 5 + nB + 2 + 3 + nH + (cS (cxOf p ck B (F + p.w)) fa lp Γ (pc + 5 + nB + 2 + 3 + nH) o k).length) m resF st' →
            ¬ Halts (sphinx p) st') →
          (∀ m5, SInvD p (.stop (F + p.w) (pc + 5 + nB + 2)) (("%ap", o + p.w) :: Γ) env1 m5 F D (o + p.w) ra → KeepD p.w m3 m5 F →
            ∃ stE, Reach (sphinx p) ⟨pc + 5 + nB + 2, m5⟩ trA stE ∧
              Post p B ra lp (.you (some (F + p.w, B + off_halt))) Γ envF F D o (pc + 5 + nB + 2 + 3 + nH + (cS (cxOf p ck B (F + p.w)) fa lp Γ (pc + 5 + nB + 2 + 3 + nH) o k).length) m resF stE) →
          Concl p B ra lp (.you (some (F + p.w, B + off_halt))) Γ envF F D o pc
            (pc + 5 + nB + 2 + 3 + nH + (cS (cxOf p ck B (F + p.w)) fa lp Γ (pc + 5 + nB + 2 + 3 + nH) o k).length) m (tr1 ++ trA) resF := by
        intro trA envF resF hndF hfinF after
        -- in the world in which every defeat call halts the body halts: the jump is taken
        obtain ⟨st4, rb4, hp4⟩ := (hbody m4 (B + off_halt) hi4 env1 tr1 .defeat hb1 trivial (Or.inl hW4)).2 (fun _ => rfl)
        obtain ⟨a4, v4, e4, hpc4, _, _⟩ := hp4
        cases e4
        have hh4 : Halts (sphinx p) st4 := by
          obtain ⟨pc4, mm4⟩ := st4
          simp only at hpc4; subst hpc4
          exact Halts.halt (sys := sphinx p) (step_halt (m := mm4) (halt_at lib))
        have jt : Reach (sphinx p) ⟨pc + 3, m3⟩ [] ⟨pc + 5, m3⟩ := Reach.jump_taken' (sys := sphinx p) s3 (r45.1 (rb4.1 hh4))
        -- the real run: no state in which the body is defeated halts, because the handler and the rest never do
        have fin3 : ∀ st', Post p B ra { cont := lp.cont, brk := lp.brk, vd := true } (.stop (F + p.w) (pc + 5 + nB + 2)) (("%ap", o + p.w) :: Γ) env1 F D (o + p.w)
            (pc + 5 + nB) m3 .defeat st' → ¬ Halts (sphinx p) st' := by
          intro st' hp
          obtain ⟨a5, v5, e5, hpc5, hi5, k35⟩ := hp
          cases e5
          obtain ⟨pc5, m5⟩ := st'
          simp only at hpc5 hi5 k35; subst hpc5
          obtain ⟨stE, rE, hpE⟩ := after m5 hi5 k35
          exact (rE.exec (hfinF stE hpE)).2
        obtain ⟨st5, rb5, hp5⟩ := (hbody m3 (pc + 5 + nB + 2) hi3 env1 tr1 .defeat hb1 trivial (Or.inr fin3)).2 (fun _ => rfl)
        obtain ⟨a5, v5, e5, hpc5, hi5, k35⟩ := hp5
        cases e5
        obtain ⟨pc5, m5⟩ := st5
        simp only at hpc5 hi5 k35; subst hpc5
        obtain ⟨stE, rE, hpE⟩ := after m5 hi5 k35
        exact ⟨fun hd' => absurd hd' hndF, fun _ => ⟨stE, by simpa using r03.trans (jt.trans (rb5.trans rE)), hpE⟩⟩
      obtain ⟨⟨env2, tr2, res2⟩, hh2, hex⟩ := bind_some hex
      dsimp only at hex
      have runH : ∀ {m6 : Mem}, SInv p .plain Γ env1 m6 F D o ra → DReg p (.you (some (F + p.w, B + off_halt))) m6 F → FaultOK ck fns p.w res2 → _ :=
        fun hi6 hd6 hfo => handler_ok (sb := sb) (e := pc + 5 + nB + 2 + 3 + nH) ih hra hlp hvd hplh hi6 hd6 hd hplH (by rw [hlenH]) hBH hwh hpkH ho hh2 hfo
      by_cases hn2 : res2 = .norm
      · subst hn2
        rw [if_pos rfl] at hex
        obtain ⟨⟨env3, tr3, res3⟩, hk, hex⟩ := bind_some hex
        obtain ⟨rfl, rfl, rfl⟩ : env3 = env' ∧ tr1 ++ tr2 ++ tr3 = tr ∧ res3 = res := by
          simpa only [Option.pure_def, Option.some.injEq, Prod.mk.injEq] using hex
        have hnd3 : res3 ≠ .defeat := exec_no_defeat _ _ _ _ _ _ _ _ _ _ _ _ _ hyk hk
        rw [List.append_assoc]
        refine close (tr2 ++ tr3) env3 res3 hnd3 h2 (fun m5 hi5 k35 => ?_)
        obtain ⟨m6, rp, hi6, km6, hd6⟩ := pro m5 hi5 k35
        obtain ⟨st7, r7, hp7⟩ := (runH hi6 hd6 trivial).2.2 (nd (by decide))
        obtain ⟨pc7, m7⟩ := st7
        obtain ⟨hpc7, hi7, k67⟩ := hp7
        dsimp only at hpc7 hi7 k67
        subst hpc7
        have km7 := km6.trans' k67
        obtain ⟨stE, rE, hpE⟩ := (contK hi7 km7 hk hck h2).2.2 (nd hnd3)
        exact ⟨stE, by simpa using rp.trans (r7.trans rE), hpE.rebase km7⟩
      · rw [if_neg hn2] at hex
        obtain ⟨rfl, rfl, rfl⟩ : env2 = env' ∧ tr1 ++ tr2 = tr ∧ res2 = res := by
          simpa only [Option.pure_def, Option.some.injEq, Prod.mk.injEq] using hex
        have hnd2 : res2 ≠ .defeat := exec_no_defeat _ _ _ _ false _ _ _ _ _ _ _ _ (plain_youLevel _ _ _ hplh) hh2
        refine close tr2 env2 res2 hnd2 h2 (fun m5 hi5 k35 => ?_)
        obtain ⟨m6, rp, hi6, km6, hd6⟩ := pro m5 hi5 k35
        obtain ⟨stE, rE, hpE⟩ := (runH hi6 hd6 hck).2.2 (nd hnd2)
        exact ⟨stE, by simpa using rp.trans rE, (hpE.rebase km6).of_ne_norm hn2⟩
    · rw [if_neg hdft] at hex
      by_cases hn : res1 = .norm
      · subst hn
        rw [if_pos rfl] at hex
        obtain ⟨⟨env3, tr3, res3⟩, hk, hex⟩ := bind_some hex
        obtain ⟨rfl, rfl, rfl⟩ : env3 = env' ∧ tr1 ++ tr3 = tr ∧ res3 = res := by
          simpa only [Option.pure_def, Option.some.injEq, Prod.mk.injEq] using hex
        -- the body is not defeated: it runs in the world in which every defeat call halts
        obtain ⟨st5, rb, hp⟩ := (hbody m4 (B + off_halt) hi4 env1 tr1 .norm hb1 trivial (Or.inl hW4)).2 (nd (by decide))
        obtain ⟨pc5, m5⟩ := st5
        obtain ⟨hpc5, hi5, k45⟩ := hp
        dsimp only at hpc5 hi5 k45
        subst hpc5
        have g := goto_reach (pc + 5 + nB) (pc + 5 + nB + 2 + 3 + nH) m5 hplG hendM
        have km5 : Keep p.w m m5 ((Md.you (some (F + p.w, B + off_halt))).kb F p.w) :=
          km4.trans' ((show Keep p.w m4 m5 F from k45).mono (Nat.le_add_right _ _))
        obtain ⟨hnd3, hkk⟩ := contK (back _ _ hi5) km5 hk hck h2
        obtain ⟨st', r3, hp3⟩ := hkk.2 (nd hnd3)
        have rbody : Reach (sphinx p) ⟨pc + 3 + 1, m3⟩ (tr1 ++ tr3) st' := by simpa using r45.trans (rb.trans (g.trans r3))
        exact ⟨fun hd' => absurd hd' hnd3, fun _ => ⟨st', by simpa using r03.trans (Reach.jump_over (sys := sphinx p) s3 rbody (h2 st' (hp3.rebase km5))), hp3.rebase km5⟩⟩
      · rw [if_neg hn] at hex
        obtain ⟨rfl, rfl, rfl⟩ : env1 = env' ∧ tr1 = tr ∧ res1 = res := by
          simpa only [Option.pure_def, Option.some.injEq, Prod.mk.injEq] using hex
        obtain ⟨st1, r1, hp1⟩ := (hbody m4 (B + off_halt) hi4 env1 tr1 res1 hb1 hck (Or.inl hW4)).2 (nd hdft)
        have hp1' : Post p B ra lp (.you (some (F + p.w, B + off_halt))) Γ env1 F D o
            (pc + 5 + nB + 2 + 3 + nH + (cS (cxOf p ck B (F + p.w)) fa lp Γ (pc + 5 + nB + 2 + 3 + nH) o k).length) m res1 st1 :=
          (convS env1 res1 hn hdft _ _ m4 st1 hp1).rebase km4
        have r1' : Reach (sphinx p) ⟨pc + 3 + 1, m3⟩ tr1 st1 := by simpa using r45.trans r1
        exact ⟨fun hd' => absurd hd' hdft, fun _ => ⟨st1, by simpa using r03.trans (Reach.jump_over (sys := sphinx p) s3 r1' (h2 st1 hp1')), hp1'⟩⟩
end

end HidVerif.Core
