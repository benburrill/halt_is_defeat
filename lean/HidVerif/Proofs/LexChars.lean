import HidVerif.Proofs.LexStrings
/-!
# Character literals as layout pieces (C12 v, vi)

A character literal `'c'` of one ASCII character other than `'` and `\`, or `'e'` with `e` a complete escape
sequence denoting one byte, is exactly one `chr` token, in front of anything.
-/
namespace HidVerif.Hid.Lex
open HidVerif.Gen

theorem readsAs_char (c : CP) (h1 : c ≠ 39) (h2 : c ≠ 92) (h3 : c < 128) (rest : Line) : ReadsAs [39, c, 39] (.chr c) rest := by
  refine .of_head (by decide +kernel) (by decide) (readToken_of_char ?_)
  have hu : utf8 c = some [c] := by unfold utf8; rw [if_pos h3]
  have hesc : readEscape (c :: 39 :: rest) = .none := by
    unfold readEscape
    split <;> first | rfl | (rename_i h; injection h with h _; exact absurd h h2)
  show readChar (39 :: c :: 39 :: rest) = _
  unfold readChar
  simp only [hesc, hu]
  split
  · rename_i h; injection h with h _; exact absurd h h1
  · simp

theorem selfDelim_char (c : CP) (h1 : c ≠ 39) (h2 : c ≠ 92) (h3 : c < 128) :
    SelfDelim [39, c, 39] (.chr c) :=
  .of_readsAs fun rest _ => readsAs_char c h1 h2 h3 rest

theorem readsAs_char_esc (e : Line) (b : Nat) (he : IsEsc e [b]) (rest : Line) : ReadsAs (39 :: (e ++ [39])) (.chr b) rest := by
  obtain ⟨⟨r, rfl⟩, hesc⟩ := he
  refine .of_head (by decide +kernel) (by decide) ?_
  have ht : (39 :: (92 :: r ++ [39])) ++ rest = 39 :: (92 :: (r ++ 39 :: rest)) := by simp
  rw [ht]
  refine readToken_of_char ?_
  have h1 := hesc (39 :: rest)
  have hd : (92 :: (r ++ 39 :: rest)).drop (r.length + 1) = 39 :: rest := by
    simp
  simp only [List.cons_append, List.length_cons] at h1
  unfold readChar
  simp only [h1, hd, List.length_cons, List.length_append, List.length_nil]

end HidVerif.Hid.Lex
