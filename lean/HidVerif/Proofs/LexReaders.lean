import HidVerif.Proofs.LexSymbols
/-!
# The readers of `readToken`, by the first character of the input

Facts about the regenerated character classes (white space against word characters, digits, letters),
what each reader does on an input it does not accept, and `readToken` once the reader in charge is known.
-/
namespace HidVerif.Hid.Lex
open HidVerif.Gen

theorem inRanges_iff (rs : List (Nat × Nat)) (c : Nat) : inRanges rs c = true ↔ ∃ a ∈ rs, a.1 ≤ c ∧ c ≤ a.2 := by
  simp [inRanges, List.any_eq_true]

theorem isIdStart_iff (c : Nat) : isIdStart c = true ↔ (97 ≤ c ∧ c ≤ 122) ∨ (65 ≤ c ∧ c ≤ 90) ∨ c = 95 := by
  simp [isIdStart, or_assoc]

theorem space_ranges_low : ∀ a ∈ spaceRanges, a.2 < 65 ∨ 122 < a.1 := by decide +kernel

theorem space_low (c : Nat) (h : isSpace c = true) : c < 65 ∨ 122 < c := by
  obtain ⟨a, ha, h1, h2⟩ := (inRanges_iff _ c).1 h
  have := space_ranges_low a ha
  omega

theorem idstart_not_space (c : Nat) (h : isIdStart c = true) : isSpace c = false := by
  cases hs : isSpace c with
  | false => rfl
  | true =>
    have h1 := space_low c hs
    have h2 := (isIdStart_iff c).1 h
    omega

/-- word ranges beyond U+3000, the last white-space character, need no comparison -/
theorem ranges_disjoint :
    spaceRanges.all (fun a => Nat.ble a.2 12288) = true ∧
    wordRanges.all (fun b => Nat.blt 12288 b.1 || spaceRanges.all (fun a => Nat.blt a.2 b.1 || Nat.blt b.2 a.1)) = true := by
  decide +kernel

theorem space_not_word (c : Nat) (h : isSpace c = true) : isWord c = false := by
  obtain ⟨a, ha, h1, h2⟩ := (inRanges_iff _ c).1 h
  cases hw : isWord c with
  | false => rfl
  | true =>
    obtain ⟨b, hb, h3, h4⟩ := (inRanges_iff _ c).1 hw
    have hmax := List.all_eq_true.1 ranges_disjoint.1 a ha
    have hd := List.all_eq_true.1 ranges_disjoint.2 b hb
    simp only [Bool.or_eq_true, Nat.blt_eq, Nat.ble_eq, List.all_eq_true] at hmax hd
    rcases hd with hd | hd
    · omega
    · have := hd a ha
      omega

theorem word_ranges_ascii : wordRanges.take 4 = [(48, 57), (65, 90), (95, 95), (97, 122)] ∧
    (wordRanges.drop 4).all (fun b => Nat.ble 170 b.1) = true := by decide +kernel

theorem not_word_ascii (c : Nat) (h : c < 48 ∨ 57 < c ∧ c < 65 ∨ 90 < c ∧ c < 95 ∨ c = 96 ∨ 122 < c ∧ c < 170) : isWord c = false := by
  cases hw : isWord c with
  | false => rfl
  | true =>
    obtain ⟨b, hb, h1, h2⟩ := (inRanges_iff _ c).1 hw
    rw [← List.take_append_drop 4 wordRanges, List.mem_append, word_ranges_ascii.1] at hb
    rcases hb with hm | hd
    · simp only [List.mem_cons, List.not_mem_nil, or_false] at hm
      rcases hm with rfl | rfl | rfl | rfl <;> omega
    · have := List.all_eq_true.1 word_ranges_ascii.2 b hd
      simp only [Nat.ble_eq] at this
      omega

theorem space_digit_disjoint :
    spaceRanges.all (fun a => digitRanges.all (fun b => Nat.blt a.2 b.1 || Nat.blt b.2.1 a.1)) = true := by decide +kernel

theorem digitVal_eq_some {c v : Nat} (h : digitVal c = some v) : ∃ b ∈ digitRanges, b.1 ≤ c ∧ c ≤ b.2.1 := by
  unfold digitVal at h
  cases hf : digitRanges.find? (fun (lo, hi, _) => lo ≤ c && c ≤ hi) with
  | none => rw [hf] at h; cases h
  | some r =>
    have hp := List.find?_some hf
    simp only [Bool.and_eq_true, decide_eq_true_eq] at hp
    exact ⟨r, List.mem_of_find?_eq_some hf, hp⟩

theorem digitVal_space (c : Nat) (h : isSpace c = true) : digitVal c = none := by
  obtain ⟨a, ha, h1, h2⟩ := (inRanges_iff _ c).1 h
  cases hd : digitVal c with
  | none => rfl
  | some v =>
    obtain ⟨b, hb, h3, h4⟩ := digitVal_eq_some hd
    have := List.all_eq_true.1 (List.all_eq_true.1 space_digit_disjoint a ha) b hb
    simp only [Bool.or_eq_true, Nat.blt_eq] at this
    omega

theorem digit_ranges_high : ∀ b ∈ digitRanges, b = (48, 57, 0) ∨ 1632 ≤ b.1 := by decide +kernel

theorem digitVal_range {c v : Nat} (h : digitVal c = some v) : (48 ≤ c ∧ c ≤ 57) ∨ 1632 ≤ c := by
  obtain ⟨b, hb, h1, h2⟩ := digitVal_eq_some h
  rcases digit_ranges_high b hb with rfl | h3
  · exact Or.inl ⟨h1, h2⟩
  · exact Or.inr (Nat.le_trans h3 h1)

theorem digit_not_space {c v : Nat} (h : digitVal c = some v) : isSpace c = false := by
  cases hs : isSpace c with
  | false => rfl
  | true => rw [digitVal_space c hs] at h; cases h

theorem digit_not_idstart {c v : Nat} (h : digitVal c = some v) : isIdStart c = false := by
  cases hi : isIdStart c with
  | false => rfl
  | true =>
    have h1 := (isIdStart_iff c).1 hi
    have h2 := digitVal_range h
    omega

theorem readSymbol_idstart (c : CP) (l : Line) (hc : isIdStart c = true) : readSymbol (c :: l) = none :=
  readSymbol_none_of_head c l fun s hs e => by rw [(symbols_head s hs c e).1] at hc; cases hc

theorem readSymbol_digit {c v : Nat} (l : Line) (hc : digitVal c = some v) : readSymbol (c :: l) = none :=
  readSymbol_none_of_head c l fun s hs e => by
    have h1 := (symbols_head s hs c e).2.1
    have h2 := digitVal_range hc
    omega

theorem readSymbol_quote (c : CP) (l : Line) (hc : c = 34 ∨ c = 39) : readSymbol (c :: l) = none :=
  readSymbol_none_of_head c l fun s hs e => by
    obtain ⟨_, _, h34, h39, _⟩ := symbols_head s hs c e
    rcases hc with h | h
    · exact h34 h
    · exact h39 h

/-- `@` begins no symbol; `!` begins `!=` only, and `=` begins no name -/
theorem readSymbol_flavour (p c : CP) (l : Line) (hp : p = 64 ∨ p = 33) (hc : isIdStart c = true) :
    readSymbol (p :: c :: l) = none :=
  readSymbol_none_of_prefix fun s hs => by
    cases hcs : cps s with
    | nil => exact absurd hcs (symbols_shape s hs).1
    | cons d r =>
      obtain ⟨_, _, _, _, h64, h33⟩ := symbols_head s hs d (by rw [hcs]; rfl)
      rw [isPrefix_cons]
      by_cases hd : p = d
      · subst hd
        rcases hp with rfl | rfl
        · exact absurd rfl h64
        · have h61 : c ≠ 61 := fun e => by rw [e] at hc; exact absurd hc (by decide)
          rw [hcs] at h33
          injection h33 rfl with _ hr
          rw [hr, isPrefix_cons, beq_false_of_ne h61, Bool.false_and, Bool.and_false]
      · rw [beq_false_of_ne hd, Bool.false_and]

theorem readIdent_plain (c : Nat) (l : Line) (h64 : c ≠ 64) (h33 : c ≠ 33) :
    readIdent (c :: l) = match matchIdent (c :: l) with
      | some name =>
        (match keywordOf name with
          | some k => .ok (.enum k) name.length
          | none => .ok (.ident name .none) name.length)
      | none => .none := by
  unfold readIdent
  split
  · rename_i h; exact absurd (List.cons.inj h).1 h64
  · rename_i h; exact absurd (List.cons.inj h).1 h33
  · rfl

theorem readIdent_flavoured (p : CP) (l : Line) (hp : p = 64 ∨ p = 33) :
    readIdent (p :: l) = match matchIdent l with
      | some name =>
        if (keywordOf name).isSome then .err (1 + name.length)
        else .ok (.ident name (if p = 64 then Flavor.you else Flavor.defeat)) (1 + name.length)
      | none => .err 1 := by
  rcases hp with rfl | rfl <;> rfl

theorem readIdent_none (c : Nat) (l : Line) (h64 : c ≠ 64) (h33 : c ≠ 33) (hid : isIdStart c = false) :
    readIdent (c :: l) = .none := by
  rw [readIdent_plain c l h64 h33]
  simp only [matchIdent, hid]
  rfl

theorem readIdent_digit {c v : Nat} (l : Line) (hc : digitVal c = some v) : readIdent (c :: l) = .none := by
  have := digitVal_range hc
  exact readIdent_none c l (by omega) (by omega) (digit_not_idstart hc)

def NotWordNext (rest : Line) : Prop := rest = [] ∨ ∃ d r, rest = d :: r ∧ isWord d = false

theorem StartsSpace.notWordNext {rest : Line} (h : StartsSpace rest) : NotWordNext rest :=
  h.imp id fun ⟨d, r, e, hd⟩ => ⟨d, r, e, space_not_word d hd⟩

theorem matchIdent_word (c : CP) (r rest : Line) (hc : isIdStart c = true) (hr : ∀ d ∈ r, isWord d = true)
    (hrest : NotWordNext rest) : matchIdent (c :: (r ++ rest)) = some (c :: r) := by
  have htw : (r ++ rest).takeWhile isWord = r := takeWhile_append_stop r rest hr (by
    rcases hrest with rfl | ⟨d, r', rfl, hd⟩
    · exact fun _ h => nomatch h
    · exact fun _ h => by cases h; exact hd)
  simp only [matchIdent, hc, if_true, htw]

theorem readInt_decimal (l : Line) (h : ∀ q r, l = 48 :: q :: r → q ≠ 120 ∧ q ≠ 111 ∧ q ≠ 98) :
    readInt l = (let (ds, n) := digitsSep digitVal l; if n == 0 then none else some (ofDigits 10 ds, n)) := by
  unfold readInt
  match l, h with
  | [], _ => rfl
  | [a], _ => (by_cases ha : a = 48 <;> simp [ha])
  | a :: q :: r, h =>
    by_cases ha : a = 48
    · subst ha
      obtain ⟨h1, h2, h3⟩ := h q r rfl
      simp [h1, h2, h3]
    · simp [ha]

theorem readInt_none (c : CP) (l : Line) (h : digitVal c = none) : readInt (c :: l) = none := by
  have h48 : c ≠ 48 := fun e => by rw [e] at h; exact absurd h (by decide +kernel)
  rw [readInt_decimal _ (fun q r e => absurd (List.cons.inj e).1 h48)]
  simp only [digitsSep, h]
  rfl

theorem readInt_hex (r : Line) (ds : List Nat) (n : Nat) (h : digitsSep hexVal r = (ds, n)) (hn : n ≠ 0) :
    readInt (48 :: 120 :: r) = some (ofDigits 16 ds, n + 2) := by
  unfold readInt
  simp [h, hn]

theorem readInt_oct (r : Line) (ds : List Nat) (n : Nat) (h : digitsSep (asciiIn 48 55) r = (ds, n)) (hn : n ≠ 0) :
    readInt (48 :: 111 :: r) = some (ofDigits 8 ds, n + 2) := by
  unfold readInt
  simp [h, hn]

theorem readInt_bin (r : Line) (ds : List Nat) (n : Nat) (h : digitsSep (asciiIn 48 49) r = (ds, n)) (hn : n ≠ 0) :
    readInt (48 :: 98 :: r) = some (ofDigits 2 ds, n + 2) := by
  unfold readInt
  simp [h, hn]

theorem readToken_of_ident {l : Line} {t : Tok} {n : Nat} (hs : readSymbol l = none) (hi : readIdent l = .ok t n) :
    readToken l = .ok t n := by
  unfold readToken
  rw [hs]
  simp only [hi]

theorem readToken_of_word {c : CP} {l : Line} {t : Tok} {n : Nat} (hc : isIdStart c = true) (h : readIdent (c :: l) = .ok t n) :
    readToken (c :: l) = .ok t n :=
  readToken_of_ident (readSymbol_idstart c l hc) h

theorem readToken_of_flavoured {p c : CP} {l : Line} {t : Tok} {n : Nat} (hp : p = 64 ∨ p = 33) (hc : isIdStart c = true)
    (h : readIdent (p :: c :: l) = .ok t n) : readToken (p :: c :: l) = .ok t n :=
  readToken_of_ident (readSymbol_flavour p c l hp hc) h

theorem readToken_of_digit {c v : Nat} {l : Line} {w n : Nat} (hc : digitVal c = some v) (h : readInt (c :: l) = some (w, n)) :
    readToken (c :: l) = .ok (.int w) n := by
  unfold readToken
  rw [readSymbol_digit l hc]
  simp only [readIdent_digit l hc, h]

theorem readToken_quote (c : CP) (l : Line) (hc : c = 34 ∨ c = 39) :
    readToken (c :: l) = match readString (c :: l) with
      | .ok t n => .ok t n
      | .err e => .err e
      | .none => match readChar (c :: l) with
        | .ok t n => .ok t n
        | .err e => .err e
        | .none => .err 0 := by
  have hd : digitVal c = none := by rcases hc with rfl | rfl <;> decide +kernel
  have hi : readIdent (c :: l) = .none := by rcases hc with rfl | rfl <;> rfl
  unfold readToken
  rw [readSymbol_quote c l hc]
  simp only [hi, readInt_none c l hd]
  rfl

theorem readToken_of_string {l : Line} {t : Tok} {n : Nat} (h : readString (34 :: l) = .ok t n) : readToken (34 :: l) = .ok t n := by
  rw [readToken_quote 34 l (Or.inl rfl)]
  simp only [h]

theorem readToken_of_char {l : Line} {t : Tok} {n : Nat} (h : readChar (39 :: l) = .ok t n) : readToken (39 :: l) = .ok t n := by
  rw [readToken_quote 39 l (Or.inr rfl), show readString (39 :: l) = .none from rfl]
  simp only [h]

end HidVerif.Hid.Lex
