import HidVerif.Proofs.TypeRulesLemmas
/-!
# Type soundness, expressions: casts and coercions answer a well-typed tree of the requested type, and every tree
`tcExpr` answers obeys the rules `wtE`
-/
namespace HidVerif.Hid.TC
open HidVerif.Hid HidVerif.Hid.Lex HidVerif.Hid.Parse HidVerif.Gen

abbrev CastPost (fs : List FuncSig) (new : Ty) (x : R TE) : Prop := Post x (fun e' => wtE fs e' = true ∧ typeOf e' = new)

theorem genericCast_post {fs : List FuncSig} {e : TE} {t new : Ty} (hw : wtE fs e = true) (ht : typeOf e = t) :
    CastPost fs new (genericCast e t new) := by
  unfold genericCast
  split
  · rename_i heq
    exact .pure ⟨hw, by rw [ht]; simpa using heq⟩
  · -- the cast table: nine pairs answer cast nodes, arrays a `vol` node if the element types agree, the rest an error
    split
    iterate 9 exact .pure (by simp [wtE, typeOf, castSrcOK, castTarget, isArr, hw, ht])
    · split
      · exact .pure (by simp_all [wtE, typeOf, castSrcOK])
      · exact .throw trivial
    · exact .throw trivial

mutual
theorem cast_post (fs : List FuncSig) : ∀ (e : TE) (new : Ty) (impl : Bool), wtE fs e = true → tgtOK new = true →
    CastPost fs new (cast e new impl)
  | .intv v b sh, new, impl, hw, _ => by
    unfold cast
    split
    iterate 3 exact .pure ⟨rfl, rfl⟩
    exact genericCast_post hw rfl
  | .boolv b, new, impl, hw, _ => by
    unfold cast
    split
    iterate 2 exact .pure ⟨rfl, rfl⟩
    exact genericCast_post hw rfl
  | .strv bs, new, impl, hw, _ => by
    unfold cast
    split
    · exact .pure ⟨rfl, rfl⟩
    · exact genericCast_post hw rfl
  | .arrlit vals ty lk, new, impl, hw, hn => by
    unfold cast
    split
    · rename_i nel c
      have hsc : scalarTy nel = true := hn
      have hwv : wtEs fs vals = true := by
        simp only [wtE, Bool.and_eq_true] at hw; exact hw.1
      refine (castAll_post fs vals nel hwv hsc).bind fun vs _ h => .pure ⟨?_, rfl⟩
      simp only [wtE, h.1, h.2, hsc, scalar_ne_empty hsc, Bool.false_eq_true, if_false, if_true, Bool.and_self]
    · exact genericCast_post hw rfl
  | .cast .vol inner, new, impl, hw, hn => by
    unfold cast
    exact cast_post fs inner new false (by simp only [wtE, Bool.and_eq_true] at hw; exact hw.1) hn
  | .cast .b2i _, new, impl, hw, _ | .cast .i2b _, new, impl, hw, _ | .cast .i2bool _, new, impl, hw, _
  | .cast .bool2b _, new, impl, hw, _ | .cast .s2a _, new, impl, hw, _
  | .var .., new, impl, hw, _ | .index .., new, impl, hw, _ | .len .., new, impl, hw, _ | .call .., new, impl, hw, _
  | .arrinit .., new, impl, hw, _ | .arith .., new, impl, hw, _ | .unarith .., new, impl, hw, _
  | .boolop .., new, impl, hw, _ | .notop .., new, impl, hw, _ | .spec .., new, impl, hw, _ | .param .., new, impl, hw, _ => by
    unfold cast; exact genericCast_post hw rfl

theorem castAll_post (fs : List FuncSig) : ∀ (es : List TE) (new : Ty), wtEs fs es = true → scalarTy new = true →
    Post (castAll es new) (fun es' => wtEs fs es' = true ∧ allTy es' new = true)
  | [], new, _, _ => by unfold castAll; exact .pure ⟨rfl, rfl⟩
  | e :: rest, new, hw, hn => by
    unfold castAll
    simp only [wtEs, Bool.and_eq_true] at hw
    refine (cast_post fs e new false hw.1 (scalar_tgtOK hn)).bind fun c _ hc =>
      (castAll_post fs rest new hw.2 hn).bind fun cs _ hcs => .pure ?_
    simp only [wtEs, allTy, hc.1, hc.2, hcs.1, hcs.2, beq_self_eq_true, Bool.and_self, and_self]
end

theorem cast_ok (fs : List FuncSig) : ∀ (e : TE) (new : Ty) (impl : Bool) (e' : TE), wtE fs e = true → tgtOK new = true →
    cast e new impl = .ok e' → wtE fs e' = true ∧ typeOf e' = new :=
  fun e new impl _ hw hn h => (cast_post fs e new impl hw hn).ok h

theorem castAll_ok (fs : List FuncSig) : ∀ (es : List TE) (new : Ty) (es' : List TE), wtEs fs es = true → scalarTy new = true →
    castAll es new = .ok es' → wtEs fs es' = true ∧ allTy es' new = true :=
  fun es new _ hw hn h => (castAll_post fs es new hw hn).ok h

theorem coerce_post {fs : List FuncSig} {e : TE} {new : Ty} (hw : wtE fs e = true) (hn : tgtOK new = true) :
    CastPost fs new (coerce e new) := by
  unfold coerce
  split
  · split <;> exact cast_post fs _ _ _ hw hn
  · exact .throw trivial

theorem coerce_ok {fs : List FuncSig} {e : TE} {new : Ty} {e' : TE} (hw : wtE fs e = true) (hn : tgtOK new = true)
    (h : coerce e new = .ok e') : wtE fs e' = true ∧ typeOf e' = new :=
  (coerce_post hw hn).ok h

theorem coerceArgs_post (fs : List FuncSig) : ∀ (as : List TE) (ts : List Ty), wtEs fs as = true →
    (∀ t ∈ ts, tgtOK t = true) → as.length = ts.length →
    Post (coerceArgs as ts) (fun cs => wtEs fs cs = true ∧ cs.map typeOf = ts)
  | [], [], _, _, _ => by unfold coerceArgs; exact .pure ⟨rfl, rfl⟩
  | [], _ :: _, _, _, hl => by cases hl
  | _ :: _, [], _, _, hl => by cases hl
  | a :: as, t :: ts, hw, ht, hl => by
    unfold coerceArgs
    simp only [wtEs, Bool.and_eq_true] at hw
    refine (coerce_post hw.1 (ht t List.mem_cons_self)).bind fun c _ hc =>
      (coerceArgs_post fs as ts hw.2 (fun t' ht' => ht t' (List.mem_cons_of_mem _ ht')) (Nat.succ.inj hl)).bind
        fun cs _ hcs => .pure ?_
    simp only [wtEs, hc.1, hcs.1, List.map_cons, hc.2, hcs.2, Bool.and_self, and_self]

theorem coerceArgs_ok (fs : List FuncSig) : ∀ (as : List TE) (ts : List Ty) (cs : List TE), wtEs fs as = true →
    (∀ t ∈ ts, tgtOK t = true) → as.length = ts.length → coerceArgs as ts = .ok cs →
    wtEs fs cs = true ∧ cs.map typeOf = ts :=
  fun as ts _ hw ht hl h => (coerceArgs_post fs as ts hw ht hl).ok h

theorem resolve_mem {cands : List FuncSig} {args : List TE} {f : FuncSig} (h : resolveCall cands args = some f) :
    f ∈ cands ∧ f.ptys.length = args.length := by
  unfold resolveCall at h
  cases he : cands.find? (fun f => f.ptys == args.map typeOf) with
  | some g =>
    simp [he] at h; subst h
    have := List.find?_some he
    refine ⟨List.mem_of_find?_eq_some he, ?_⟩
    have : g.ptys = args.map typeOf := by simpa using this
    simp [this]
  | none =>
    simp only [he] at h
    have hm := List.mem_of_find?_eq_some h
    have hp := List.find?_some h
    simp at hp
    exact ⟨hm, hp.1⟩

/-- what the inductions need of an environment -/
structure EnvOK (env : Env) : Prop where
  decls : ∀ sc ∈ env.scopes, ∀ d ∈ sc, declOK env.funcs d = true
  ptys : ∀ f ∈ env.funcs, ∀ t ∈ f.ptys, tgtOK t = true
  rets : ∀ f ∈ env.funcs, noNest f.ret = true
  ret : ∀ r, env.retTy = some r → tgtOK r = true

theorem lookup_mem {env : Env} {n : List CP} {d : VarDecl} (h : env.lookup n = some d) : ∃ sc ∈ env.scopes, d ∈ sc := by
  unfold Env.lookup at h
  obtain ⟨sc, hsc, hd⟩ := List.exists_of_findSome?_eq_some h
  exact ⟨sc, hsc, List.mem_of_find?_eq_some hd⟩

theorem pickElemTy_post (fs : List FuncSig) (vs : List TE) (hvs : wtEs fs vs = true) : ∀ (tys : List Ty),
    Post (pickElemTy vs tys) (fun te => wtE fs te = true)
  | [] => by unfold pickElemTy; exact .throw trivial
  | t :: rest => by
    unfold pickElemTy
    split
    · exact .throw trivial
    · split
      · exact .throw trivial
      · split
        · rename_i h1 h2 h3
          have hs := not_arr_not_empty (by simpa using h1) (by simpa using h2)
          exact .pure (by simp only [wtE, hvs, hs, scalar_ne_empty hs, h3, Bool.false_eq_true, if_false, Bool.and_self])
        · exact pickElemTy_post fs vs hvs rest

theorem pickElemTy_ok (fs : List FuncSig) (vs : List TE) (hvs : wtEs fs vs = true) : ∀ (tys : List Ty) (te : TE),
    pickElemTy vs tys = .ok te → wtE fs te = true :=
  fun tys _ h => (pickElemTy_post fs vs hvs tys).ok h

mutual
theorem tcExpr_wt_post (env : Env) (henv : EnvOK env) : ∀ (e : PExpr), ptyE e = true →
    Post (tcExpr env e) (fun te => wtE env.funcs te = true)
  | .int _, _ | .char _, _ | .str _, _ | .bool _, _ => by unfold tcExpr; exact .pure rfl
  | .var n, _ => by
    unfold tcExpr
    split
    · exact .throw trivial
    · rename_i d hd
      split
      · rename_i hc
        exact .pure (wtE_atSpan (Bool.and_eq_true _ _ ▸ hc).2)
      · obtain ⟨sc, hsc, hm⟩ := lookup_mem hd
        have := henv.decls sc hsc d hm
        simp only [declOK, Bool.and_eq_true] at this
        exact .pure (by simpa only [wtE] using this.1.1)
  | .index s i, hp => by
    simp only [ptyE, Bool.and_eq_true] at hp
    unfold tcExpr
    refine (tcExpr_wt_post env henv s hp.1).bind fun src _ hws => ?_
    dsimp only
    refine Post.guard fun hst => ?_
    have tail : ∀ src' : TE, wtE env.funcs src' = true ∧ typeOf src' = typeOf src →
        Post (do let idx ← tcExpr env i
                 let idx ← coerce idx Ty.int
                 pure (src'.index idx) : R TE) (fun te => wtE env.funcs te = true) := fun src' hs' =>
      (tcExpr_wt_post env henv i hp.2).bind fun idx _ hwi => (coerce_post hwi tgtOK_int).bind fun idx' _ hi' =>
        .pure (wtE_index hs'.1 hi'.1 hi'.2 (by rw [hs'.2]; exact of_not_false hst))
    split
    · exact Post.throw_bind
    · rename_i vals t lk hne _
      exact (coerce_post hws (arrlit_tgtOK hws (fun c h => hne c (by rw [h])))).bind fun src' _ hs' => tail src' hs'
    · rw [pure_bind]
      exact tail src ⟨hws, rfl⟩
  | .len s, hp => by
    simp only [ptyE] at hp
    unfold tcExpr
    refine (tcExpr_wt_post env henv s hp).bind fun src _ hws => ?_
    dsimp only
    exact Post.guard fun hst => .pure (wtE_len hws (of_not_false hst))
  | .call n fl args, hp => by
    simp only [ptyE] at hp
    unfold tcExpr
    refine (tcExprs_wt_post env henv args hp).bind fun as _ hwa => ?_
    dsimp only
    split
    · exact .throw trivial
    · rename_i f hf
      obtain ⟨hfm, hfl⟩ := resolve_mem hf
      have hfm' := List.mem_filter.1 hfm
      refine (coerceArgs_post env.funcs as f.ptys hwa (henv.ptys f hfm'.1) hfl.symm).bind fun cs _ ⟨h1, h2⟩ => .pure ?_
      have hq := hfm'.2
      simp only [Bool.and_eq_true, beq_iff_eq] at hq
      simp only [wtE, h1, h2, beq_self_eq_true, Bool.true_and, List.any_eq_true, Bool.and_eq_true, beq_iff_eq]
      exact ⟨f, hfm'.1, ⟨⟨hq.1, hq.2⟩, rfl⟩, rfl⟩
  | .arrlit items, hp => by
    simp only [ptyE] at hp
    unfold tcExpr
    split
    · exact .pure rfl
    · exact (tcExprs_wt_post env henv items hp).bind fun vs _ hwv => pickElemTy_post env.funcs vs hwv _
  | .un op e, hp => by
    simp only [ptyE] at hp
    unfold tcExpr
    refine (tcExpr_wt_post env henv e hp).bind fun a _ hwa => ?_
    split
    · refine (cast_post env.funcs a .bool false hwa tgtOK_bool).bind fun b _ hb => ?_
      split <;> first | exact .pure rfl | exact .pure (wtE_notop hb)
    · refine (coerce_post hwa tgtOK_int).bind fun ai _ hai => ?_
      split
      · exact .pure rfl
      · exact .pure (wtE_unarith hai (by split <;> rfl))
  | .is_ e t, hp => by
    simp only [ptyE, Bool.and_eq_true] at hp
    unfold tcExpr
    exact (tcExpr_wt_post env henv e hp.1).bind fun a _ hwa =>
      (cast_post env.funcs a t false hwa hp.2).mono fun _ _ h => h.1
  | .bin op l r, hp => by
    simp only [ptyE, Bool.and_eq_true] at hp
    have hl := tcExpr_wt_post env henv l hp.1
    have hr := tcExpr_wt_post env henv r hp.2
    unfold tcExpr
    split
    · rename_i aop haop
      refine hl.bind fun a _ ha => hr.bind fun b _ hb => (coerce_post ha tgtOK_int).bind fun ai _ hai =>
        (coerce_post hb tgtOK_int).bind fun bi _ hbi => ?_
      split
      · exact Post.skip fun _ _ => .pure rfl
      · exact .pure (wtE_arith hai hbi (arithOpOf_ok haop))
    · split
      · rename_i lop hlop
        exact hl.bind fun a _ ha => (cast_post env.funcs a .bool false ha tgtOK_bool).bind fun a' _ ha' => hr.bind fun b _ hb =>
          (cast_post env.funcs b .bool false hb tgtOK_bool).bind fun b' _ hb' =>
            foldCmp_sat (hv := fun _ => rfl) (wtE_boolop ha' hb' (boolopOK_logic hlop))
      · split
        · rename_i cop hcop
          refine hl.bind fun a _ ha => (coerce_post ha tgtOK_int).bind fun a' _ ha' => hr.bind fun b _ hb =>
            (coerce_post hb tgtOK_int).bind fun b' _ hb' => ?_
          split
          · exact .pure rfl
          · exact .pure (wtE_boolop ha' hb' (boolopOK_cmp hcop))
        · split
          · rename_i eop heop
            refine hl.bind fun a _ ha => hr.bind fun b _ hb => ?_
            dsimp only
            split
            · rename_i hbb
              simp only [Bool.and_eq_true, beq_iff_eq] at hbb
              simp only [pure_bind]
              exact foldCmp_sat (hv := fun _ => rfl) (wtE_boolop ⟨ha, hbb.1⟩ ⟨hb, hbb.2⟩ (boolopOK_eq heop).2)
            · refine (coerce_post ha tgtOK_int).bind fun a' _ ha' => (coerce_post hb tgtOK_int).bind fun b' _ hb' => ?_
              simp only [pure_bind]
              exact foldCmp_sat (hv := fun _ => rfl) (wtE_boolop ha' hb' (boolopOK_eq heop).1)
          · exact .throw trivial
  | .spec l r, hp => by
    simp only [ptyE, Bool.and_eq_true] at hp
    unfold tcExpr
    refine (tcExpr_wt_post env henv l hp.1).bind fun a _ hwa => ?_
    dsimp only
    refine Post.guard fun hst => ?_
    have hst := of_not_false hst
    refine (tcExpr_wt_post env henv r hp.2).bind fun b _ hwb => (coerce_post hwb (tgtOK_spec hst)).bind fun b' _ hb' => ?_
    split
    · exact .pure hwa
    · exact .pure (wtE_spec hwa hb' hst)

theorem tcExprs_wt_post (env : Env) (henv : EnvOK env) : ∀ (es : List PExpr), ptyEs es = true →
    Post (tcExprs env es) (fun ts => wtEs env.funcs ts = true)
  | [], _ => by unfold tcExprs; exact .pure rfl
  | e :: rest, hp => by
    simp only [ptyEs, Bool.and_eq_true] at hp
    unfold tcExprs
    refine (tcExpr_wt_post env henv e hp.1).bind fun t _ ht => (tcExprs_wt_post env henv rest hp.2).bind fun ts _ hts => .pure ?_
    simp only [wtEs, ht, hts, Bool.and_self]
end

theorem tcExpr_wt (env : Env) (henv : EnvOK env) : ∀ (e : PExpr) (te : TE), ptyE e = true → tcExpr env e = .ok te →
    wtE env.funcs te = true :=
  fun e _ hp h => (tcExpr_wt_post env henv e hp).ok h

theorem tcExprs_wt (env : Env) (henv : EnvOK env) : ∀ (es : List PExpr) (ts : List TE), ptyEs es = true → tcExprs env es = .ok ts →
    wtEs env.funcs ts = true :=
  fun es _ hp h => (tcExprs_wt_post env henv es hp).ok h

end HidVerif.Hid.TC
