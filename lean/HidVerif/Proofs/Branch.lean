import HidVerif.Proofs.Templates
import HidVerif.Proofs.Tables
/-!
# Branch, normalisation and unary-operator lowerings (C09), for all `w` and all values
-/
namespace HidVerif.Sphinx
open HidVerif HidVerif.PSys HidVerif.Gen HidVerif.Compiler

/-- two-sided branch `J: j T; J+1: h<c> a b; … ; T: h<c'> a b` with `(c, c')` an entry of the
regenerated `halt_inversion` table: control goes to `T+1` iff the condition `c` holds and to
`J+2` otherwise, nothing is written or emitted — whatever code follows -/
theorem branch_exact {p : Prog} {J T : Nat} {c c' : HaltOp} {a b : Arg} {m : Mem} {x y : Nat}
    (hinv : (c, c') ∈ haltInversion)
    (c0 : p.code[J]? = some (.j (.imm T))) (c1 : p.code[J + 1]? = some (.hcond c a b))
    (cT : p.code[T]? = some (.hcond c' a b)) (hT : T < 256 ^ p.w)
    (ha : ∀ pc', evalArg p ⟨pc', m⟩ a = some x) (hb : ∀ pc', evalArg p ⟨pc', m⟩ b = some y) :
    (haltCond p.M c x y = true → Reach (sphinx p) ⟨J, m⟩ [] ⟨T + 1, m⟩) ∧
    (haltCond p.M c x y = false → Reach (sphinx p) ⟨J, m⟩ [] ⟨J + 1 + 1, m⟩) := by
  have hneg : haltCond (256 ^ p.w) c' x y = !haltCond (256 ^ p.w) c x y :=
    halt_inversion_sound p.M x y (c, c') hinv
  constructor
  · intro hc
    exact (jh_taken c0 c1 hT (ha _) (hb _) hc).trans (hcond_pass cT (ha _) (hb _)
      (by rw [hneg, show haltCond (256 ^ p.w) c x y = true from hc]; rfl))
  · intro hc
    exact jh_fall c0 c1 hT (ha _) (hb _) hc (fun _ => hcond_halts cT (ha _) (hb _)
      (by rw [hneg, show haltCond (256 ^ p.w) c x y = false from hc]; rfl))

/-- `IntToBool`: the normalisation fragment leaves `0` for `0` and `1` for every other word -/
theorem bool_norm_exact {p : Prog} {pc r v : Nat} {m : Mem}
    (h : PlacedAt p pc (boolNorm (pc + 3) r)) (hpc : pc + 3 < 256 ^ p.w) (hw : 2 ≤ p.w)
    (hr : r < 256 ^ p.w) (hrsz : r + p.w ≤ m.size) (hv : m.readLE r p.w = v) :
    ∃ m', Reach (sphinx p) ⟨pc, m⟩ [] ⟨pc + 4, m'⟩ ∧ m'.readLE r p.w = (if v = 0 then 0 else 1) ∧
      (∀ x, (x < r ∨ r + p.w ≤ x) → m'.rd x = m.rd x) := by
  have hM := pow_ge2 p.w hw
  have c0 : p.code[pc]? = _ := h.get 0 rfl
  have c1 := h.get 1 rfl; have c2 := h.get 2 rfl; have c3 := h.get 3 rfl
  have er : ∀ pc', evalArg p ⟨pc', m⟩ (.st r) = some v := fun _ => by
    rw [ev_st (by unfold Prog.M; exact hr) hrsz, hv]
  have one : ∀ pc' m', evalArg p ⟨pc', m'⟩ (.imm 1) = some 1 := fun _ _ => ev_imm_lt (by omega)
  by_cases hle : v ≤ 1
  · -- already 0/1: the jump is taken, the value is left alone
    refine ⟨m, ?_, by rw [hv]; split <;> omega, fun _ _ => rfl⟩
    exact (jh_taken c0 c1 hpc (er _) (one _ _) (decide_eq_true hle)).trans
      (hcond_pass c3 (er _) (one _ _) (decide_eq_false (show ¬ v > 1 by omega)))
  · -- anything else becomes 1; not jumping is the committed choice because the jump target halts at
    -- once (`hgtu v 1` fires)
    have fall := jh_fall c0 c1 hpc (er _) (one _ _) (decide_eq_false hle) (fun _ =>
      hcond_halts c3 (er _) (one _ _) (decide_eq_true (show v > 1 by omega)))
    have s2 := step_mov (m := m) c2 (one _ _) (by unfold Prog.M; exact hr) hrsz
    generalize hm' : m.writeLE r p.w 1 = m' at *
    have hr' : m'.readLE r p.w = 1 := by
      rw [← hm', Mem.readLE_writeLE_same _ _ _ _ hrsz]; exact Nat.mod_eq_of_lt (by omega)
    have er' : evalArg p ⟨pc + 3, m'⟩ (.st r) = some 1 := by
      rw [ev_st (by unfold Prog.M; exact hr) (by rw [← hm']; simpa using hrsz), hr']
    refine ⟨m', ?_, by rw [hr']; split <;> omega, fun x hx => by rw [← hm', Mem.rd_writeLE_other _ _ _ _ _ hx]⟩
    exact fall.trans ((Reach.of_next (sys := sphinx p) s2).trans
      (hcond_pass c3 er' (one _ _) (decide_eq_false (show ¬ 1 > 1 by omega))))

/-- unary minus is `sub r, 0, x` -/
theorem neg_lowering (M n x : Nat) (hx : x < M) : aluOp M n .sub 0 x = some ((M - x) % M) := by
  simp [aluOp, Nat.mod_eq_of_lt hx]

/-- `not` is `sub r, 1, x`, correct because booleans are strictly 0/1 (`bool_norm_exact`) -/
theorem not_lowering (M n x : Nat) (hM : 2 ≤ M) (hx : x ≤ 1) :
    aluOp M n .sub 1 x = some (if x = 0 then 1 else 0) := by
  have : x = 0 ∨ x = 1 := by omega
  rcases this with rfl | rfl
  · simp [aluOp, Nat.mod_eq_of_lt (by omega : 1 < M)]
  · simp [aluOp, Nat.mod_eq_of_lt (by omega : 1 < M)]

end HidVerif.Sphinx
