import HidVerif.Proofs.NoInternal
import HidVerif.Proofs.ExitModes
/-!
# The two assertions at the end of `FuncDefinition.evaluate`, and `typechecker_never_internal`

`BREAK not in exit_modes`, `DEFEAT not in exit_modes or flavor == DEFEAT` (`tcStmt_modes`, `finishBody_ni`).
-/
namespace HidVerif.Hid.TC
open HidVerif.Hid HidVerif.Hid.Lex HidVerif.Hid.Parse HidVerif.Gen
open HidVerif.Hid.Exit (Skel)

mutual
def hasFl (fl : Flavor) : TE → Bool
  | .call _ fl' args _ _ => fl' == fl || hasFls fl args
  | .cast _ e => hasFl fl e
  | .index s i => hasFl fl s || hasFl fl i
  | .len s => hasFl fl s
  | .arrlit vals _ _ => hasFls fl vals
  | .arrinit _ l => hasFl fl l
  | .arith _ l r _ => hasFl fl l || hasFl fl r
  | .unarith _ e _ => hasFl fl e
  | .boolop _ l r => hasFl fl l || hasFl fl r
  | .notop e => hasFl fl e
  | .spec l r => hasFl fl l || hasFl fl r
  | _ => false
def hasFls (fl : Flavor) : List TE → Bool
  | [] => false
  | e :: rest => hasFl fl e || hasFls fl rest
end

mutual
def callFl (fl : Flavor) : PExpr → Bool
  | .call _ fl' args => fl' == fl || callFls fl args
  | .arrlit items => callFls fl items
  | .len e => callFl fl e
  | .index e i => callFl fl e || callFl fl i
  | .un _ e => callFl fl e
  | .is_ e _ => callFl fl e
  | .bin _ l r => callFl fl l || callFl fl r
  | .spec l r => callFl fl l || callFl fl r
  | _ => false
def callFls (fl : Flavor) : List PExpr → Bool
  | [] => false
  | e :: rest => callFl fl e || callFls fl rest
end

theorem hasFl_atSpan {fl : Flavor} {e : TE} (h : isPrimitive e = true) : hasFl fl (atSpan e) = false := by
  cases e <;> first | rfl | cases h

abbrev NoFl (fl : Flavor) (x : R TE) : Prop := Post x (fun e' => hasFl fl e' = false)

theorem genericCast_fl {fl : Flavor} {e : TE} {t new : Ty} (hn : hasFl fl e = false) : NoFl fl (genericCast e t new) := by
  -- the cast nodes of the table wrap `e` and add no call
  have wrap : ∀ {e' : TE}, hasFl fl e' = hasFl fl e → NoFl fl (pure e') := fun h => .pure (h.trans hn)
  unfold genericCast
  split
  · exact .pure hn
  · split
    iterate 9 exact wrap (by simp only [hasFl])
    · exact Sat.ite (fun _ => wrap (by simp only [hasFl])) (fun _ => .throw trivial)
    · exact .throw trivial

mutual
theorem cast_fl (fl : Flavor) : ∀ (e : TE) (new : Ty) (impl : Bool), hasFl fl e = false → NoFl fl (cast e new impl)
  | .intv v b sh, new, impl, hn => by
    unfold cast
    split
    iterate 3 exact .pure rfl
    exact genericCast_fl hn
  | .boolv b, new, impl, hn => by
    unfold cast
    split
    iterate 2 exact .pure rfl
    exact genericCast_fl hn
  | .strv bs, new, impl, hn => by
    unfold cast
    split
    · exact .pure rfl
    · exact genericCast_fl hn
  | .arrlit vals ty lk, new, impl, hn => by
    unfold cast
    split
    · exact (castAll_fl fl vals _ (by simpa only [hasFl] using hn)).bind fun vs _ hvs => .pure (by simpa only [hasFl] using hvs)
    · exact genericCast_fl hn
  | .cast .vol inner, new, impl, hn => by
    unfold cast
    exact cast_fl fl inner new false (by simpa only [hasFl] using hn)
  | .cast .b2i _, _, _, hn | .cast .i2b _, _, _, hn | .cast .i2bool _, _, _, hn | .cast .bool2b _, _, _, hn
  | .cast .s2a _, _, _, hn | .var .., _, _, hn | .index .., _, _, hn | .len .., _, _, hn | .call .., _, _, hn
  | .arrinit .., _, _, hn | .arith .., _, _, hn | .unarith .., _, _, hn | .boolop .., _, _, hn | .notop .., _, _, hn
  | .spec .., _, _, hn | .param .., _, _, hn => by
    unfold cast; exact genericCast_fl hn

theorem castAll_fl (fl : Flavor) : ∀ (es : List TE) (new : Ty), hasFls fl es = false →
    Post (castAll es new) (fun es' => hasFls fl es' = false)
  | [], new, _ => by unfold castAll; exact .pure rfl
  | e :: rest, new, hn => by
    unfold castAll
    simp only [hasFls, Bool.or_eq_false_iff] at hn
    exact (cast_fl fl e new false hn.1).bind fun c _ hc => (castAll_fl fl rest new hn.2).bind fun cs _ hcs =>
      .pure (by simp only [hasFls, hc, hcs, Bool.or_self])
end

theorem coerce_fl {fl : Flavor} {e : TE} {new : Ty} (hn : hasFl fl e = false) : NoFl fl (coerce e new) := by
  unfold coerce
  split
  · split <;> exact cast_fl fl _ _ _ hn
  · exact .throw trivial

theorem coerceArgs_fl (fl : Flavor) : ∀ (as : List TE) (ts : List Ty), hasFls fl as = false →
    Post (coerceArgs as ts) (fun cs => hasFls fl cs = false)
  | [], _, _ => by unfold coerceArgs; exact .pure rfl
  | _ :: _, [], _ => by unfold coerceArgs; exact .pure rfl
  | a :: as, t :: ts, hn => by
    unfold coerceArgs
    simp only [hasFls, Bool.or_eq_false_iff] at hn
    exact (coerce_fl hn.1).bind fun c _ hc => (coerceArgs_fl fl as ts hn.2).bind fun cs _ hcs =>
      .pure (by simp only [hasFls, hc, hcs, Bool.or_self])

theorem pickElemTy_fl (fl : Flavor) (vs : List TE) (hn : hasFls fl vs = false) : ∀ (tys : List Ty), NoFl fl (pickElemTy vs tys)
  | [] => by unfold pickElemTy; exact .throw trivial
  | t :: rest => by
    unfold pickElemTy
    split
    · exact .throw trivial
    · split
      · exact .throw trivial
      · split
        · exact .pure (by simpa only [hasFl] using hn)
        · exact pickElemTy_fl fl vs hn rest

theorem foldCmp_fl {fl : Flavor} {a b : TE} {op : BinOp} (ha : hasFl fl a = false) (hb : hasFl fl b = false) :
    NoFl fl (foldCmp op a b) :=
  foldCmp_sat (by simp only [hasFl, ha, hb, Bool.or_self]) fun _ => rfl

mutual
theorem tcExpr_fl_post (fl : Flavor) (env : Env) : ∀ (e : PExpr), callFl fl e = false → NoFl fl (tcExpr env e)
  | .int _, _ | .char _, _ | .str _, _ | .bool _, _ => by unfold tcExpr; exact .pure rfl
  | .var n, _ => by
    unfold tcExpr
    split
    · exact .throw trivial
    · rename_i d hd
      split
      · rename_i hc
        exact .pure (hasFl_atSpan (Bool.and_eq_true _ _ ▸ hc).2)
      · exact .pure rfl
  | .index s i, hp => by
    simp only [callFl, Bool.or_eq_false_iff] at hp
    unfold tcExpr
    refine (tcExpr_fl_post fl env s hp.1).bind fun src _ hs => ?_
    dsimp only
    refine Post.guard fun _ => ?_
    have tail : ∀ src' : TE, hasFl fl src' = false →
        NoFl fl (do let idx ← tcExpr env i
                    let idx ← coerce idx Ty.int
                    pure (src'.index idx) : R TE) := fun src' hs' =>
      (tcExpr_fl_post fl env i hp.2).bind fun idx _ hi => (coerce_fl hi).bind fun idx' _ hi' =>
        .pure (by simp only [hasFl, hs', hi', Bool.or_self])
    split
    · exact Post.throw_bind
    · exact (coerce_fl hs).bind fun src' _ hs' => tail src' hs'
    · rw [pure_bind]; exact tail src hs
  | .len s, hp => by
    simp only [callFl] at hp
    unfold tcExpr
    refine (tcExpr_fl_post fl env s hp).bind fun src _ hs => ?_
    dsimp only
    exact Post.guard fun _ => .pure (by simpa only [hasFl] using hs)
  | .call n fl' args, hp => by
    simp only [callFl, Bool.or_eq_false_iff] at hp
    unfold tcExpr
    refine (tcExprs_fl_post fl env args hp.2).bind fun as _ has => ?_
    dsimp only
    split
    · exact .throw trivial
    · exact (coerceArgs_fl fl as _ has).bind fun cs _ hcs => .pure (by simp only [hasFl, hp.1, hcs, Bool.or_self])
  | .arrlit items, hp => by
    simp only [callFl] at hp
    unfold tcExpr
    split
    · exact .pure rfl
    · exact (tcExprs_fl_post fl env items hp).bind fun vs _ hvs => pickElemTy_fl fl vs hvs _
  | .un op e, hp => by
    simp only [callFl] at hp
    unfold tcExpr
    refine (tcExpr_fl_post fl env e hp).bind fun a _ ha => ?_
    split
    · refine (cast_fl fl a .bool false ha).bind fun b _ hb => ?_
      split <;> first | exact .pure rfl | exact .pure (by simpa only [hasFl] using hb)
    · refine (coerce_fl ha).bind fun ai _ hai => ?_
      split <;> first | exact .pure rfl | exact .pure (by simpa only [hasFl] using hai)
  | .is_ e t, hp => by
    simp only [callFl] at hp
    unfold tcExpr
    exact (tcExpr_fl_post fl env e hp).bind fun a _ ha => cast_fl fl a t false ha
  | .bin op l r, hp => by
    simp only [callFl, Bool.or_eq_false_iff] at hp
    have hl := tcExpr_fl_post fl env l hp.1
    have hr := tcExpr_fl_post fl env r hp.2
    unfold tcExpr
    split
    · refine hl.bind fun a _ ha => hr.bind fun b _ hb => (coerce_fl ha).bind fun ai _ hai => (coerce_fl hb).bind fun bi _ hbi => ?_
      split
      · exact Post.skip fun _ _ => .pure rfl
      · exact .pure (by simp only [hasFl, hai, hbi, Bool.or_self])
    · split
      · exact hl.bind fun a _ ha => (cast_fl fl a .bool false ha).bind fun a' _ ha' => hr.bind fun b _ hb =>
          (cast_fl fl b .bool false hb).bind fun b' _ hb' => foldCmp_fl ha' hb'
      · split
        · refine hl.bind fun a _ ha => (coerce_fl ha).bind fun a' _ ha' => hr.bind fun b _ hb =>
            (coerce_fl hb).bind fun b' _ hb' => ?_
          split
          · exact .pure rfl
          · exact .pure (by simp only [hasFl, ha', hb', Bool.or_self])
        · split
          · refine hl.bind fun a _ ha => hr.bind fun b _ hb => ?_
            dsimp only
            split
            · simp only [pure_bind]
              exact foldCmp_fl ha hb
            · refine (coerce_fl ha).bind fun a' _ ha' => (coerce_fl hb).bind fun b' _ hb' => ?_
              simp only [pure_bind]
              exact foldCmp_fl ha' hb'
          · exact .throw trivial
  | .spec l r, hp => by
    simp only [callFl, Bool.or_eq_false_iff] at hp
    unfold tcExpr
    refine (tcExpr_fl_post fl env l hp.1).bind fun a _ ha => ?_
    dsimp only
    refine Post.guard fun _ => (tcExpr_fl_post fl env r hp.2).bind fun b _ hb => (coerce_fl hb).bind fun b' _ hb' => ?_
    split
    · exact .pure ha
    · exact .pure (by simp only [hasFl, ha, hb', Bool.or_self])

theorem tcExprs_fl_post (fl : Flavor) (env : Env) : ∀ (es : List PExpr), callFls fl es = false →
    Post (tcExprs env es) (fun ts => hasFls fl ts = false)
  | [], _ => by unfold tcExprs; exact .pure rfl
  | e :: rest, hp => by
    simp only [callFls, Bool.or_eq_false_iff] at hp
    unfold tcExprs
    exact (tcExpr_fl_post fl env e hp.1).bind fun t _ ht => (tcExprs_fl_post fl env rest hp.2).bind fun ts _ hts =>
      .pure (by simp only [hasFls, ht, hts, Bool.or_self])
end

theorem tcExpr_fl (fl : Flavor) (env : Env) : ∀ (e : PExpr) (te : TE), callFl fl e = false → tcExpr env e = .ok te →
    hasFl fl te = false :=
  fun e _ hp h => (tcExpr_fl_post fl env e hp).ok h

theorem tcExprs_fl (fl : Flavor) (env : Env) : ∀ (es : List PExpr) (ts : List TE), callFls fl es = false →
    tcExprs env es = .ok ts → hasFls fl ts = false :=
  fun es _ hp h => (tcExprs_fl_post fl env es hp).ok h

theorem callFls_true {fl : Flavor} : ∀ {l : List PExpr}, callFls fl l = true → ∃ a ∈ l, callFl fl a = true
  | [], h => by cases h
  | a :: l, h => by
    simp only [callFls, Bool.or_eq_true] at h
    rcases h with h | h
    · exact ⟨a, List.mem_cons_self, h⟩
    · obtain ⟨b, hb, hc⟩ := callFls_true h
      exact ⟨b, List.mem_cons_of_mem _ hb, hc⟩

/-- a defeat-flavoured call anywhere in an expression the rules allow means the position admits defeat calls -/
theorem rules_defeat {p : Pos} {e : PExpr} (h : RulesE p e) : callFl .defeat e = true → mayCall p .defeat = true := by
  induction h with
  | int | char | str | bool | var => exact fun h => nomatch h
  | @arrlit p items _ ih =>
    simp only [callFl]
    intro hc
    obtain ⟨a, ha, hca⟩ := callFls_true hc
    exact ih a ha hca
  | @call p n fl args hm _ ih =>
    simp only [callFl, Bool.or_eq_true, beq_iff_eq]
    intro hc
    rcases hc with rfl | hc
    · exact hm
    · obtain ⟨a, ha, hca⟩ := callFls_true hc
      exact ih a ha hca
  | len _ ih | un _ ih | is_ _ ih => exact ih
  | index _ _ ih1 ih2 | bin _ _ ih1 ih2 =>
    intro hc
    simp only [callFl, Bool.or_eq_true] at hc
    exact hc.elim ih1 ih2
  | @spec p l r _ _ _ ih1 ih2 =>
    simp only [callFl, Bool.or_eq_true]
    intro hc
    have hf : mayCall { p with inSpec := true } .defeat = false := by simp [mayCall]
    rcases hc with h1 | h1
    · have := ih1 h1; rw [hf] at this; cases this
    · have := ih2 h1; rw [hf] at this; cases this

/-! `emReplace` is `Exit.replace`; `hB`, `hD` are the flags `BREAK = 2^1`, `DEFEAT = 2^3` of `Proofs/ModeBits.lean` -/
theorem em_vals : em "NONE" = 1 ∧ em "BREAK" = 2 ∧ em "LOOP" = 4 ∧ em "DEFEAT" = 8 ∧ em "RETURN" = 16 := by decide

theorem replace_eq (m o n : Nat) : emReplace m o n = Exit.replace m o n := rfl

def hB (m : Nat) : Bool := Nat.land m 2 == 2
def hD (m : Nat) : Bool := Nat.land m 8 == 8
theorem emHas_break (m : Nat) : emHas m "BREAK" = hB m := by simp [emHas, em_vals.2.1, hB]
theorem emHas_defeat (m : Nat) : emHas m "DEFEAT" = hD m := by simp [emHas, em_vals.2.2.2.1, hD]

theorem hB_repl_none (m n : Nat) : hB (emReplace m 1 n) = (hB m || hB n) := Exit.has_replace_ne (j := 0) (k := 1) rfl rfl m n
theorem hD_repl_none (m n : Nat) : hD (emReplace m 1 n) = (hD m || hD n) := Exit.has_replace_ne (j := 0) (k := 3) rfl rfl m n
theorem hB_lor (m n : Nat) : hB (Nat.lor m n) = (hB m || hB n) := Exit.has_lor (k := 1) rfl m n
theorem hD_lor (m n : Nat) : hD (Nat.lor m n) = (hD m || hD n) := Exit.has_lor (k := 3) rfl m n
theorem hB_repl_defeat (m n : Nat) : hB (emReplace m 8 n) = (hB m || hB n) := Exit.has_replace_ne (j := 3) (k := 1) rfl rfl m n
theorem hD_repl_defeat (m n : Nat) : hD (emReplace m 8 n) = hD n := Exit.has_replace_self (k := 3) rfl m n
theorem hB_repl_break (m n : Nat) : hB (emReplace m 2 n) = hB n := Exit.has_replace_self (k := 1) rfl m n
theorem hD_repl_break (m n : Nat) : hD (emReplace m 2 n) = (hD m || hD n) := Exit.has_replace_ne (j := 1) (k := 3) rfl rfl m n

def ModeOK (p : Pos) (m : Nat) : Prop :=
  m < 32 ∧ (p.inLoop = false → hB m = false) ∧ (hD m = true → mayCall p .defeat = true)

theorem ModeOK.zero (p : Pos) : ModeOK p 0 := ⟨by decide, fun _ => (by decide), fun h => (by simp [hD] at h)⟩
theorem ModeOK.none (p : Pos) : ModeOK p 1 := ⟨by decide, fun _ => (by decide), fun h => (by simp [hD] at h)⟩
theorem ModeOK.loop (p : Pos) : ModeOK p 4 := ⟨by decide, fun _ => (by decide), fun h => (by simp [hD] at h)⟩
theorem ModeOK.ret (p : Pos) : ModeOK p 16 := ⟨by decide, fun _ => (by decide), fun h => (by simp [hD] at h)⟩
theorem ModeOK.brk {p : Pos} (h : p.inLoop = true) : ModeOK p 2 :=
  ⟨by decide, fun h' => (by rw [h] at h'; cases h'), fun h => (by simp [hD] at h)⟩
theorem ModeOK.defeat {p : Pos} (h : mayCall p .defeat = true) : ModeOK p 8 := ⟨by decide, fun _ => (by decide), fun _ => h⟩

theorem ModeOK.of_or {p : Pos} {m n x : Nat} (hm : ModeOK p m) (hn : ModeOK p n) (hlt : x < 32)
    (hb : hB x = (hB m || hB n)) (hd : hD x = (hD m || hD n)) : ModeOK p x := by
  refine ⟨hlt, fun hl => ?_, fun hx => ?_⟩
  · rw [hb, hm.2.1 hl, hn.2.1 hl]; rfl
  · rw [hd, Bool.or_eq_true] at hx
    exact hx.elim hm.2.2 hn.2.2

theorem ModeOK.repl_none {p : Pos} {m n : Nat} (hm : ModeOK p m) (hn : ModeOK p n) : ModeOK p (emReplace m 1 n) :=
  hm.of_or hn (Exit.replace_lt 1 hm.1 hn.1) (hB_repl_none m n) (hD_repl_none m n)

theorem ModeOK.lor {p : Pos} {m n : Nat} (hm : ModeOK p m) (hn : ModeOK p n) : ModeOK p (Nat.lor m n) :=
  hm.of_or hn (Exit.lor_lt hm.1 hn.1) (hB_lor m n) (hD_lor m n)

/-- the flags a typed statement contributes to the modes of the block it stands in (`stepMode`) -/
def ownModes (t : TS) : Nat :=
  match t with
  | .block _ _ | .ifb _ _ _ | .loop _ _ _ | .tryb _ _ _ | .preempt _ => exitModesOf t
  | .ret _ => 16
  | .brk => 2
  | .cont => 0
  | .expr (.call n fl args _ _) =>
    if fl == .defeat && n == cps "is_defeat" && args.isEmpty then 8
    else if fl == .none && (n == cps "all_is_win" || n == cps "all_is_broken") && args.isEmpty then 4
    else if fl == .defeat then 8
    else 0
  | _ => 0

def skelOfE : TE → Skel
  | .call n fl args _ _ =>
    if fl == .defeat && n == cps "is_defeat" && args.isEmpty then .defeat
    else if fl == .none && (n == cps "all_is_win" || n == cps "all_is_broken") && args.isEmpty then .term
    else if fl == .defeat then .defcall
    else .other
  | _ => .other

def ownOf : Skel → Nat
  | .defeat | .defcall => 8
  | .term => 4
  | _ => 0

/-- `stepMode`, `ownModes` and `skelOfE` run the same chain of tests (`!is_defeat()`, terminal call, defeat flavour) -/
theorem stepMode_expr (mode : Nat) (e : TE) : stepMode mode (.expr e) = Exit.step mode (skelOfE e) := by
  cases e with
  | call n fl args ptys r =>
    simp only [skelOfE, stepMode, apply_ite (Exit.step mode)]
    rfl
  | _ => rfl

theorem ownModes_expr (e : TE) : ownModes (.expr e) = ownOf (skelOfE e) := by
  cases e with
  | call n fl args ptys r =>
    simp only [skelOfE, ownModes, apply_ite ownOf]
    rfl
  | _ => rfl

theorem skelOfE_cases (e : TE) : skelOfE e = .other ∨ skelOfE e = .term ∨
    ((skelOfE e = .defeat ∨ skelOfE e = .defcall) ∧ hasFl .defeat e = true) := by
  cases e with
  | call n fl args ptys r =>
    have hfl : fl = .defeat → hasFl .defeat (.call n fl args ptys r) = true := fun h => by
      simp only [hasFl, h, beq_self_eq_true, Bool.true_or]
    simp only [skelOfE]
    split
    · rename_i h
      simp only [Bool.and_eq_true, beq_iff_eq] at h
      exact .inr (.inr ⟨.inl rfl, hfl h.1.1⟩)
    · split
      · exact .inr (.inl rfl)
      · split
        · rename_i h
          exact .inr (.inr ⟨.inr rfl, hfl (beq_iff_eq.1 h)⟩)
        · exact .inl rfl
  | _ => exact .inl rfl

theorem stepMode_ok {p : Pos} {mode : Nat} {t : TS} (hm : ModeOK p mode) (ht : ModeOK p (ownModes t)) :
    ModeOK p (stepMode mode t).1 := by
  cases t with
  | block | ifb | loop | tryb | preempt | ret | brk =>
    unfold stepMode
    simp only [em_vals.1, em_vals.2.1, em_vals.2.2.2.2]
    exact hm.repl_none ht
  | cont | decl | assign | incassign => exact hm
  | expr e =>
    rw [stepMode_expr]
    rw [ownModes_expr] at ht
    have vals : Exit.NONE = 1 ∧ Exit.LOOP = 4 ∧ Exit.DEFEAT = 8 := ⟨em_vals.1, em_vals.2.2.1, em_vals.2.2.2.1⟩
    rcases skelOfE_cases e with h | h | ⟨h | h, _⟩ <;> rw [h] at ht ⊢ <;> simp only [Exit.step, vals.1, vals.2.1, vals.2.2]
    · exact hm
    · exact hm.repl_none (ModeOK.loop p)
    · exact hm.repl_none ht
    · exact hm.lor ht

theorem ModeOK.exit {p : Pos} {t : TS} (h : ModeOK p (ownModes t)) : ModeOK p (exitModesOf t) := by
  cases t <;> first | exact h | (simp only [exitModesOf]; exact ModeOK.zero p)

theorem mayCall_loop (p : Pos) : mayCall { p with inLoop := true } .defeat = mayCall p .defeat := by simp [mayCall]

theorem ModeOK.ofLoop {p : Pos} {m : Nat} (h : ModeOK { p with inLoop := true } m) :
    m < 32 ∧ (hD m = true → mayCall p .defeat = true) := ⟨h.1, fun hd => by rw [← mayCall_loop]; exact h.2.2 hd⟩

theorem expr_modes {p : Pos} {env : Env} {e : PExpr} {te : TE} (hr : RulesE p e) (h : tcExpr env e = .ok te) :
    ModeOK p (ownModes (.expr te)) := by
  have key : hasFl .defeat te = true → mayCall p .defeat = true := by
    intro hh
    apply rules_defeat hr
    cases hc : callFl .defeat e with
    | true => rfl
    | false => rw [tcExpr_fl .defeat env e te hc h] at hh; cases hh
  rw [ownModes_expr]
  rcases skelOfE_cases te with h | h | ⟨h | h, hfl⟩ <;> rw [h]
  · exact ModeOK.zero p
  · exact ModeOK.loop p
  · exact ModeOK.defeat (key hfl)
  · exact ModeOK.defeat (key hfl)

/-- a loop that can be left: `BREAK` becomes `NONE` -/
theorem ModeOK.loop_exit {p : Pos} {m : Nat} (hlt : m < 32) (hd : hD m = true → mayCall p .defeat = true) :
    ModeOK p (emReplace m 2 1) := by
  refine ⟨Exit.replace_lt 2 hlt (by decide), fun _ => ?_, fun hdd => hd ?_⟩
  · rw [hB_repl_break]; rfl
  · rw [hD_repl_break] at hdd; exact (Bool.or_false _).symm.trans hdd

/-- a trivially infinite loop: `NONE` becomes `LOOP` -/
theorem ModeOK.loop_inf {p : Pos} {m : Nat} (hlt : m < 32) (hnb : hB m = false) (hd : hD m = true → mayCall p .defeat = true) :
    ModeOK p (emReplace m 1 4) := by
  refine ⟨Exit.replace_lt 1 hlt (by decide), fun _ => ?_, fun hdd => hd ?_⟩
  · rw [hB_repl_none, hnb]; rfl
  · rw [hD_repl_none] at hdd; exact (Bool.or_false _).symm.trans hdd

theorem tcDecl_modes (p : Pos) (env : Env) (n : List CP) (ty : Ty) (c : Bool) (i : TE) :
    Post (tcDecl env n ty c i) (fun r => ModeOK p (ownModes r.2)) :=
  (tcDecl_shape env n ty c i).mono fun _ _ ⟨_, h⟩ => h ▸ ModeOK.zero p

mutual
theorem tcStmt_modes_post : ∀ (s : PStmt) (env : Env) (p : Pos), RulesS p s →
    Post (tcStmt env s) (fun r => ModeOK p (ownModes r.2))
  | .expr e, env, p, .expr he => by
    unfold tcStmt
    exact Post.self.bind fun te _ hte => .pure (expr_modes he hte)
  | .decl n ty c init, env, p, _ => by
    unfold tcStmt
    exact Post.skip fun _ _ => Post.skip fun _ _ => tcDecl_modes p _ _ _ _ _
  | .vla n el c len, env, p, _ => by
    unfold tcStmt
    exact Post.skip fun _ _ => Post.skip fun _ _ => Post.skip fun _ _ => tcDecl_modes p _ _ _ _ _
  | .assign l r, env, p, _ => by
    unfold tcStmt
    exact (tcAssign_shape env l r).mono fun _ _ ⟨_, _, h⟩ => h ▸ ModeOK.zero p
  | .incassign l r op, env, p, _ => by
    unfold tcStmt
    split
    · exact .throw trivial
    · refine Post.skip fun pr _ => ?_
      obtain ⟨e1, eq⟩ := pr
      dsimp only
      split <;> exact Post.skip fun _ _ => Post.skip fun _ _ => .pure (ModeOK.zero p)
  | .ret e, env, p, _ => by
    unfold tcStmt
    split
    · exact .throw trivial
    · split
      · split
        · exact .throw trivial
        · exact Post.skip fun _ _ => Post.skip fun _ _ => .pure (ModeOK.ret p)
      · split
        · exact .throw trivial
        · exact .pure (ModeOK.ret p)
  | .brk, env, p, .brk hl => by unfold tcStmt; exact .pure (ModeOK.brk hl)
  | .cont, env, p, _ => by unfold tcStmt; exact .pure (ModeOK.zero p)
  | .block ss pre, env, p, .block hss => by
    unfold tcStmt
    refine (tcBlockGo_modes_post ss env.child [] _ _ p hss (by rw [em_vals.1]; exact ModeOK.none p)).bind fun b _ hb => .pure ?_
    obtain ⟨ts, m, rfl, hm⟩ := hb
    exact hm
  | .ifb c a b, env, p, .ifb _ ha hb => by
    unfold tcStmt
    exact (tcStmt_modes_post a env p ha).bind fun ta _ h1 => Post.skip fun _ _ => Post.skip fun _ _ =>
      (tcStmt_modes_post b env p hb).bind fun tb _ h2 => .pure (h1.exit.lor h2.exit)
  | .loop c a b, env, p, .loop _ ha _ => by
    unfold tcStmt
    refine (tcStmt_modes_post a env _ ha).bind fun ta _ h1 => Post.skip fun _ _ => Post.skip fun _ _ => Post.skip fun _ _ => .pure ?_
    obtain ⟨hlt, hd⟩ := h1.exit.ofLoop
    simp only [ownModes, exitModesOf, em_vals.1, em_vals.2.1, em_vals.2.2.1, emHas_break]
    exact ite_rec (fun hc => ModeOK.loop_inf hlt ((Bool.not_eq_true' _).mp (Bool.and_eq_true _ _ ▸ hc).1) hd)
      fun _ => ModeOK.loop_exit hlt hd
  | .tryb a k b, env, p, .tryb hmt ha hb => by
    unfold tcStmt
    refine (tcStmt_modes_post a env _ ha).bind fun ta _ h1 => (tcStmt_modes_post b env p hb).bind fun tb _ h2 => .pure ?_
    have h1 := h1.exit
    have h2 := h2.exit
    simp only [ownModes, exitModesOf, em_vals.2.2.2.1]
    -- the handler's modes replace the body's `DEFEAT`
    refine ⟨Exit.replace_lt 8 h1.1 h2.1, fun hl => ?_, fun hdd => ?_⟩
    · rw [hB_repl_defeat, h1.2.1 hl, h2.2.1 hl]; rfl
    · rw [hD_repl_defeat] at hdd; exact h2.2.2 hdd
  | .preempt a, env, p, .preempt _ ha => by
    unfold tcStmt
    refine (tcStmt_modes_post a env p ha).bind fun ta _ h1 => .pure ?_
    have := h1.exit.lor (ModeOK.none p)
    simpa only [ownModes, exitModesOf, em_vals.1] using this

theorem tcBlockGo_modes_post : ∀ (ss : List PStmt) (env : Env) (acc : List TS) (mode : Nat) (fc : Bool) (p : Pos),
    (∀ s ∈ ss, RulesS p s) → ModeOK p mode →
    Post (tcBlockGo env ss acc mode fc) (fun t => ∃ ts m, t = .block ts m ∧ ModeOK p m)
  | [], env, acc, mode, fc, p, _, hm => by unfold tcBlockGo; exact .pure ⟨_, _, rfl, hm⟩
  | s :: rest, env, acc, mode, fc, p, hss, hm => by
    unfold tcBlockGo
    split
    · split
      · exact .throw trivial
      · exact .pure ⟨_, _, rfl, hm⟩
    · exact (tcStmt_modes_post s env p (hss s List.mem_cons_self)).bind fun pr _ h1 =>
        tcBlockGo_modes_post rest pr.1 _ _ _ p (fun s' hs' => hss s' (List.mem_cons_of_mem _ hs')) (stepMode_ok hm h1)
end

theorem tcStmt_modes : ∀ (s : PStmt) (env env' : Env) (t : TS) (p : Pos), RulesS p s → tcStmt env s = .ok (env', t) →
    ModeOK p (ownModes t) :=
  fun s env _ _ p hr h => (tcStmt_modes_post s env p hr).ok h

theorem tcBlockGo_modes : ∀ (ss : List PStmt) (env : Env) (acc : List TS) (mode : Nat) (fc : Bool) (t : TS) (p : Pos),
    (∀ s ∈ ss, RulesS p s) → ModeOK p mode → tcBlockGo env ss acc mode fc = .ok t → ∃ ts m, t = .block ts m ∧ ModeOK p m :=
  fun ss env acc mode fc _ p hss hm h => (tcBlockGo_modes_post ss env acc mode fc p hss hm).ok h

theorem finishBody_ni {fl : Flavor} {ret : Ty} {body : TS} {mode : Nat} (hm : ModeOK (startPos fl) mode) :
    NI (finishBody fl ret body mode) := by
  unfold finishBody
  split
  · rename_i hb
    rw [emHas_break] at hb
    have := hm.2.1 (by cases fl <;> rfl)
    rw [this] at hb; cases hb
  · split
    · rename_i hd
      simp only [Bool.and_eq_true, emHas_defeat, bne_iff_ne, ne_eq] at hd
      have := hm.2.2 hd.1
      cases fl <;> first | exact absurd rfl hd.2 | cases this
    · split
      · split
        · exact NI.tc
        · split <;> exact NI.pure
      · exact NI.pure

theorem bodyStmts_rules {p : Pos} {s : PStmt} (h : RulesS p s) : ∀ x ∈ bodyStmts s, RulesS p x := by
  rcases bodyStmts_cases s with ⟨ss, pre, rfl, hb⟩ | hb <;> rw [hb]
  · cases h with
    | block hss => exact hss
  · intro x hx
    cases List.mem_singleton.1 hx; exact h

theorem bodyStmts_ops {s : PStmt} (h : opsS s = true) : opsSs (bodyStmts s) = true := by
  rcases bodyStmts_cases s with ⟨ss, pre, rfl, hb⟩ | hb <;> rw [hb]
  · simpa only [opsS] using h
  · simp only [opsSs, h, Bool.and_self]

theorem tcFunc_ni (env : Env) (f : PFunc) (hr : RulesS (startPos f.fl) f.body) (ho : opsS f.body = true) : NI (tcFunc env f) := by
  unfold tcFunc
  refine NI.bind (NI.foldlM _ _ fun _ _ _ => NI.bind (tcDecl_ni _ _ _ _ _) (fun _ _ => NI.pure)) (fun env1 _ => ?_)
  refine NI.bind (tcBlockGo_ni _ _ _ _ _ (bodyStmts_ops ho)) (fun body hb => ?_)
  obtain ⟨ts, m, rfl, hm⟩ := tcBlockGo_modes _ _ _ _ _ body (startPos f.fl) (bodyStmts_rules hr)
    (by rw [em_vals.1]; exact ModeOK.none _) hb
  exact NI.bind (finishBody_ni (by simpa [exitModesOf] using hm)) (fun _ _ => NI.pure)

theorem tcProgram_ni (lint : Bool) (p : PProgram) (hf : ∀ f ∈ p.funcs, RulesS (startPos f.fl) f.body ∧ opsS f.body = true)
    (hv : ∀ v ∈ p.vars, opsS v = true) : NI (tcProgram lint p) := by
  unfold tcProgram
  refine NI.bind (NI.foldlM _ _ fun _ _ _ => by dsimp only; split <;> first | exact NI.tc | exact NI.pure) (fun funcs _ => ?_)
  dsimp only
  refine NI.bind (NI.foldlM _ _ fun _ v hv' => NI.bind (tcStmt_ni v _ (hv v hv')) (fun _ _ => NI.pure)) (fun env _ => ?_)
  exact NI.bind (NI.mapM _ (fun f hf' => tcFunc_ni env f (hf f hf').1 (hf f hf').2)) (fun _ _ => NI.pure)

/-- **The typechecker model never reports an internal error on a program the parser accepted**: the operator classes
it dispatches on are the grammar's, a compound assignment is arithmetic, and the two assertions at the end of
`FuncDefinition.evaluate` hold — the exit modes of a function body never contain `BREAK` (the parser admits `break` only
inside loops, and a loop absorbs it), and contain `DEFEAT` only in defeat functions (the parser admits defeat calls only
in try bodies, whose `DEFEAT` the handler replaces, and in defeat functions). -/
theorem typechecker_never_internal (lint : Bool) (src : List Line) (p : PProgram) (hparse : parse src = .ok p) (m : String) :
    tcProgram lint p ≠ .error (.internal m) := by
  have ok := parse_sound src p hparse
  have rules := accepted_respects_rules src p hparse
  exact tcProgram_ni lint p (fun f hf => ⟨rules.1 f hf, opsS_of_ok (ok.funcs f hf)⟩)
    (fun v hv => opsS_of_ok (ok.vars v hv)) m

end HidVerif.Hid.TC
