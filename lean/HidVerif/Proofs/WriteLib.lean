import HidVerif.Proofs.Lib
import HidVerif.Proofs.DigitsBound
/-!
# The write family of the runtime library: register view, frame condition, one-step lemmas

All statements are about `Gen.code_*` — the instruction lists regenerated from
`hidc/codegen/stdlib.py` — for every word size `w ≥ 2`.
-/
namespace HidVerif.Sphinx
open HidVerif HidVerif.PSys HidVerif.Gen

/-- register view of a state memory: `fp r0 r1 r2` hold these values, and the register file
lies inside the section -/
structure Regs (w : Nat) (m : Mem) (fp r0 r1 r2 : Nat) : Prop where
  sz : 5 * w ≤ m.size
  fp : m.readLE w w = fp
  r0 : m.readLE (2*w) w = r0
  r1 : m.readLE (3*w) w = r1
  r2 : m.readLE (4*w) w = r2

section regs
variable {w : Nat} {m : Mem} {fp r0 r1 r2 : Nat}

theorem Regs.set0 (h : Regs w m fp r0 r1 r2) (v : Nat) (hv : v < 256 ^ w) :
    Regs w (m.writeLE (2*w) w v) fp v r1 r2 := by
  refine ⟨by simpa using h.sz, ?_, ?_, ?_, ?_⟩
  · rw [Mem.readLE_writeLE_disj _ _ _ _ _ _ (.inl (fp_le (Nat.le_refl 2)))]; exact h.fp
  · rw [Mem.readLE_writeLE_same _ _ _ _ (Nat.le_trans (reg_le (by decide)) h.sz)]; exact Nat.mod_eq_of_lt hv
  · rw [Mem.readLE_writeLE_disj _ _ _ _ _ _ (.inr (reg_le (by decide)))]; exact h.r1
  · rw [Mem.readLE_writeLE_disj _ _ _ _ _ _ (.inr (reg_le (by decide)))]; exact h.r2

theorem Regs.set1 (h : Regs w m fp r0 r1 r2) (v : Nat) (hv : v < 256 ^ w) :
    Regs w (m.writeLE (3*w) w v) fp r0 v r2 := by
  refine ⟨by simpa using h.sz, ?_, ?_, ?_, ?_⟩
  · rw [Mem.readLE_writeLE_disj _ _ _ _ _ _ (.inl (fp_le (by decide)))]; exact h.fp
  · rw [Mem.readLE_writeLE_disj _ _ _ _ _ _ (.inl (reg_le (by decide)))]; exact h.r0
  · rw [Mem.readLE_writeLE_same _ _ _ _ (Nat.le_trans (reg_le (by decide)) h.sz)]; exact Nat.mod_eq_of_lt hv
  · rw [Mem.readLE_writeLE_disj _ _ _ _ _ _ (.inr (reg_le (by decide)))]; exact h.r2

theorem Regs.set2 (h : Regs w m fp r0 r1 r2) (v : Nat) (hv : v < 256 ^ w) :
    Regs w (m.writeLE (4*w) w v) fp r0 r1 v := by
  refine ⟨by simpa using h.sz, ?_, ?_, ?_, ?_⟩
  · rw [Mem.readLE_writeLE_disj _ _ _ _ _ _ (.inl (fp_le (by decide)))]; exact h.fp
  · rw [Mem.readLE_writeLE_disj _ _ _ _ _ _ (.inl (reg_le (by decide)))]; exact h.r0
  · rw [Mem.readLE_writeLE_disj _ _ _ _ _ _ (.inl (reg_le (by decide)))]; exact h.r1
  · rw [Mem.readLE_writeLE_same _ _ _ _ (Nat.le_trans (reg_le (by decide)) h.sz)]; exact Nat.mod_eq_of_lt hv

theorem Regs.setB (h : Regs w m fp r0 r1 r2) (x v : Nat) (hx : 5 * w ≤ x) :
    Regs w (m.writeLE x 1 v) fp r0 r1 r2 := by
  refine ⟨by simpa using h.sz, ?_, ?_, ?_, ?_⟩
  · rw [Mem.readLE_writeLE_disj _ _ _ _ _ _ (.inl (Nat.le_trans (fp_le (by decide)) hx))]; exact h.fp
  · rw [Mem.readLE_writeLE_disj _ _ _ _ _ _ (.inl (Nat.le_trans (reg_le (by decide)) hx))]; exact h.r0
  · rw [Mem.readLE_writeLE_disj _ _ _ _ _ _ (.inl (Nat.le_trans (reg_le (by decide)) hx))]; exact h.r1
  · rw [Mem.readLE_writeLE_disj _ _ _ _ _ _ (.inl (Nat.le_trans (reg_le (by decide)) hx))]; exact h.r2
end regs

section regev
variable {p : Prog} {pc : Nat} {m : Mem} {F r0 r1 r2 : Nat}
theorem Regs.ev_fp (h : Regs p.w m F r0 r1 r2) (_ : 2 ≤ p.w) :
    evalArg p ⟨pc, m⟩ (.st p.w) = some F := by
  rw [ev_st (w_lt_pow p.w) (Nat.le_trans (fp_le (by decide)) h.sz), h.fp]
theorem Regs.ev_r0 (h : Regs p.w m F r0 r1 r2) (hw : 2 ≤ p.w) :
    evalArg p ⟨pc, m⟩ (.st (2 * p.w)) = some r0 := by
  rw [ev_st (reg_lt hw (by decide)) (Nat.le_trans (reg_le (by decide)) h.sz), h.r0]
theorem Regs.ev_r1 (h : Regs p.w m F r0 r1 r2) (hw : 2 ≤ p.w) :
    evalArg p ⟨pc, m⟩ (.st (3 * p.w)) = some r1 := by
  rw [ev_st (reg_lt hw (by decide)) (Nat.le_trans (reg_le (by decide)) h.sz), h.r1]
theorem Regs.ev_r2 (h : Regs p.w m F r0 r1 r2) (hw : 2 ≤ p.w) :
    evalArg p ⟨pc, m⟩ (.st (4 * p.w)) = some r2 := by
  rw [ev_st (reg_lt hw (by decide)) (Nat.le_trans (reg_le (by decide)) h.sz), h.r2]
end regev

/-- frame condition: the size is unchanged and outside `[lo,hi)` every byte that is not in the
scratch registers `r0 r1 r2` (addresses `2w … 5w`) is unchanged — in particular `ap` and `fp` -/
def Same (w : Nat) (m m' : Mem) (lo hi : Nat) : Prop :=
  m'.size = m.size ∧ ∀ x, (x < 2 * w ∨ 5 * w ≤ x) → (x < lo ∨ hi ≤ x) → m'.rd x = m.rd x

theorem Same.refl' (w : Nat) (m : Mem) (lo hi : Nat) : Same w m m lo hi := ⟨rfl, fun _ _ _ => rfl⟩

theorem Same.reg {w : Nat} {m m' : Mem} {lo hi : Nat} (h : Same w m m' lo hi) (d v : Nat)
    (hd : 2 * w ≤ d ∧ d + w ≤ 5 * w) : Same w m (m'.writeLE d w v) lo hi := by
  refine ⟨by simpa using h.1, fun x hx hr => ?_⟩
  rw [Mem.rd_writeLE_other _ _ _ _ _ (by omega)]; exact h.2 x hx hr

theorem Same.trans {w : Nat} {m m' m'' : Mem} {lo hi lo' hi' : Nat}
    (h : Same w m m' lo hi) (h' : Same w m' m'' lo' hi') (hlo : lo' ≥ lo) (hhi : hi' ≤ hi) :
    Same w m m'' lo hi := by
  refine ⟨h'.1.trans h.1, fun x hx hr => ?_⟩
  rw [h'.2 x hx (by omega), h.2 x hx hr]

theorem Same.mono {w : Nat} {m m' : Mem} {lo hi lo' hi' : Nat}
    (h : Same w m m' lo hi) (hlo : lo' ≤ lo) (hhi : hi ≤ hi') : Same w m m' lo' hi' :=
  ⟨h.1, fun x hx hr => h.2 x hx (by omega)⟩

theorem Same.trans0 {w : Nat} {m m' m'' : Mem} (h : Same w m m' 0 0) (h' : Same w m' m'' 0 0) :
    Same w m m'' 0 0 :=
  h.trans h' (Nat.le_refl _) (Nat.le_refl _)

theorem Same.of_zero {w : Nat} {m m' : Mem} (h : Same w m m' 0 0) (lo hi : Nat) : Same w m m' lo hi :=
  ⟨h.1, fun x hx _ => h.2 x hx (.inr (Nat.zero_le x))⟩

theorem Same.readLE {w : Nat} {m m' : Mem} {lo hi : Nat} (h : Same w m m' lo hi) (a k : Nat)
    (ha : 5 * w ≤ a) (hr : a + k ≤ lo ∨ hi ≤ a) : m'.readLE a k = m.readLE a k :=
  Mem.readLE_congr _ _ _ _ fun x h1 h2 => h.2 x (Or.inr (Nat.le_trans ha h1)) (by omega)

theorem Same.ra {w : Nat} {m m' : Mem} {lo hi F ra : Nat} (h : Same w m m' lo hi) (hF : 6 * w ≤ F)
    (hhi : hi ≤ F - w) (hra : m.readLE (F - w) w = ra) : m'.readLE (F - w) w = ra :=
  (h.readLE _ _ (by omega) (.inr hhi)).trans hra

def bytesAt (m : Mem) (a : Nat) : Nat → List Nat
  | 0 => []
  | k+1 => m.rd a :: bytesAt m (a+1) k

theorem bytesAt_congr (m m' : Mem) (a k : Nat) (h : ∀ x, a ≤ x → x < a + k → m'.rd x = m.rd x) :
    bytesAt m' a k = bytesAt m a k := by
  induction k generalizing a with
  | zero => rfl
  | succ k ih =>
    simp only [bytesAt]
    rw [h a (by omega) (by omega), ih (a+1) (fun x h1 h2 => h x (by omega) (by omega))]

theorem Same.bytesAt {w : Nat} {m m' : Mem} {lo hi : Nat} (h : Same w m m' lo hi) (a k : Nat)
    (ha : 5 * w ≤ a) (hr : a + k ≤ lo ∨ hi ≤ a) : bytesAt m' a k = bytesAt m a k :=
  bytesAt_congr _ _ _ _ fun x h1 h2 => h.2 x (Or.inr (Nat.le_trans ha h1)) (by omega)

theorem bytesAt_snoc (m : Mem) (a k : Nat) : bytesAt m a (k+1) = bytesAt m a k ++ [m.rd (a + k)] := by
  induction k generalizing a with
  | zero => simp [bytesAt]
  | succ k ih =>
    rw [bytesAt, ih (a+1)]
    have : a + 1 + k = a + (k + 1) := by omega
    simp [bytesAt, this]

@[simp] theorem bytesAt_length (m : Mem) (a k : Nat) : (bytesAt m a k).length = k := by
  induction k generalizing a with
  | zero => rfl
  | succ k ih => simp [bytesAt, ih]

def outs (bs : List Nat) : List Ev := bs.map (fun b => Ev.out (b % 256))

@[simp] theorem outs_append (a b : List Nat) : outs (a ++ b) = outs a ++ outs b := by simp [outs]

/-! Each lemma takes one instruction (or idiom) of a routine from a state described by `Regs` to the
next, so that a routine proof is a chain of these with no address arithmetic of its own. -/
section exec
variable {p : Prog} {pc : Nat} {m : Mem} {F r0 r1 r2 : Nat}

def IsReg (w d : Nat) : Prop := d = 2 * w ∨ d = 3 * w ∨ d = 4 * w

theorem Regs.wr_ok (hr : Regs p.w m F r0 r1 r2) (hw : 2 ≤ p.w) {d : Nat} (hd : IsReg p.w d) :
    d < p.M ∧ d + p.w ≤ m.size := by
  rcases hd with rfl | rfl | rfl <;>
    exact ⟨reg_lt hw (by decide), Nat.le_trans (reg_le (by decide)) hr.sz⟩

theorem Same.wrReg {w : Nat} (m : Mem) {d : Nat} (v : Nat) (hd : IsReg w d) :
    Same w m (m.writeLE d w v) 0 0 :=
  (Same.refl' w m 0 0).reg d v (by
    rcases hd with rfl | rfl | rfl <;> exact ⟨Nat.mul_le_mul_right w (by decide), reg_le (by decide)⟩)

theorem Regs.step_alu (hr : Regs p.w m F r0 r1 r2) (hw : 2 ≤ p.w) {op : AluOp} {d : Nat} {a b : Arg}
    {x y v : Nat} (hc : p.code[pc]? = some (.alu op d a b)) (hd : IsReg p.w d)
    (ha : evalArg p ⟨pc, m⟩ a = some x) (hb : evalArg p ⟨pc, m⟩ b = some y)
    (ho : aluOp (256 ^ p.w) (8 * p.w) op x y = some v) :
    step p ⟨pc, m⟩ = .next ⟨pc + 1, m.writeLE d p.w v⟩ none ∧ v < 256 ^ p.w :=
  have ⟨h1, h2⟩ := hr.wr_ok hw hd
  ⟨Sphinx.step_alu hc ha hb ho h1 h2, aluOp_lt (Nat.lt_of_lt_of_le (by decide) (pow_ge2 p.w hw)) ho⟩

theorem Regs.step_ldfp (hr : Regs p.w m F r0 r1 r2) (hw : 2 ≤ p.w) {d j : Nat}
    (hc : p.code[pc]? = some (.load true .state d (.st p.w) (some (.imm (256 ^ p.w - j)))))
    (hd : IsReg p.w d) (hj : p.w ≤ j) (hjF : j ≤ F) (hFM : F < 256 ^ p.w) (hFsz : F ≤ m.size) :
    step p ⟨pc, m⟩ = .next ⟨pc + 1, m.writeLE d p.w (m.readLE (F - j) p.w)⟩ none ∧
      m.readLE (F - j) p.w < 256 ^ p.w :=
  have ⟨h1, h2⟩ := hr.wr_ok hw hd
  ⟨step_load (sec := .state) hc (hr.ev_fp hw) (ev_imm (pc := pc) (m := m) _) (add_neg_mod hjF (Nat.lt_of_lt_of_le (Nat.lt_of_lt_of_le (by decide) hw) hj) hFM) rfl
    (Nat.le_trans (Nat.le_trans (Nat.add_le_add_left hj (F - j)) (Nat.le_of_eq (Nat.sub_add_cancel hjF))) hFsz)
    h1 h2, Mem.readLE_lt _ _ _⟩

theorem Regs.wr0 (hr : Regs p.w m F r0 r1 r2) {v : Nat}
    (hs : step p ⟨pc, m⟩ = .next ⟨pc + 1, m.writeLE (2 * p.w) p.w v⟩ none ∧ v < 256 ^ p.w) :
    ∃ m', Reach (sphinx p) ⟨pc, m⟩ [] ⟨pc + 1, m'⟩ ∧ Regs p.w m' F v r1 r2 ∧ Same p.w m m' 0 0 :=
  ⟨_, Reach.of_next (sys := sphinx p) hs.1, hr.set0 v hs.2, Same.wrReg m v (.inl rfl)⟩

theorem Regs.wr1 (hr : Regs p.w m F r0 r1 r2) {v : Nat}
    (hs : step p ⟨pc, m⟩ = .next ⟨pc + 1, m.writeLE (3 * p.w) p.w v⟩ none ∧ v < 256 ^ p.w) :
    ∃ m', Reach (sphinx p) ⟨pc, m⟩ [] ⟨pc + 1, m'⟩ ∧ Regs p.w m' F r0 v r2 ∧ Same p.w m m' 0 0 :=
  ⟨_, Reach.of_next (sys := sphinx p) hs.1, hr.set1 v hs.2, Same.wrReg m v (.inr (.inl rfl))⟩

theorem Regs.wr2 (hr : Regs p.w m F r0 r1 r2) {v : Nat}
    (hs : step p ⟨pc, m⟩ = .next ⟨pc + 1, m.writeLE (4 * p.w) p.w v⟩ none ∧ v < 256 ^ p.w) :
    ∃ m', Reach (sphinx p) ⟨pc, m⟩ [] ⟨pc + 1, m'⟩ ∧ Regs p.w m' F r0 r1 v ∧ Same p.w m m' 0 0 :=
  ⟨_, Reach.of_next (sys := sphinx p) hs.1, hr.set2 v hs.2, Same.wrReg m v (.inr (.inr rfl))⟩

theorem Regs.sb (hr : Regs p.w m F r0 r1 r2) (hw : 2 ≤ p.w)
    (hc : p.code[pc]? = some (.store false (.st (2 * p.w)) none (.st (3 * p.w))))
    (h5 : 5 * p.w ≤ r0) (h0 : r0 < 256 ^ p.w) (hsz : r0 + 1 ≤ m.size) :
    ∃ m', Reach (sphinx p) ⟨pc, m⟩ [] ⟨pc + 1, m'⟩ ∧ Regs p.w m' F r0 r1 r2 ∧
      Same p.w m m' r0 (r0 + 1) ∧ m'.rd r0 = r1 % 256 :=
  ⟨_, Reach.of_next (sys := sphinx p) (step_sbs hc (hr.ev_r0 hw) (hr.ev_r1 hw) h0 hsz), hr.setB r0 r1 h5,
    ⟨Mem.size_writeLE .., fun _ _ hx => Mem.rd_writeLE_other _ _ _ _ _ hx⟩,
    Mem.rd_writeLE_one_same _ _ _ hsz⟩

theorem Regs.divmod10 (hr : Regs p.w m F r0 r1 r2) (hw : 2 ≤ p.w) (hn : r2 < 256 ^ p.w / 2)
    (c0 : p.code[pc]? = some (.alu .mod (3 * p.w) (.st (4 * p.w)) (.imm 10)))
    (c1 : p.code[pc + 1]? = some (.alu .div (4 * p.w) (.st (4 * p.w)) (.imm 10))) :
    ∃ m', Reach (sphinx p) ⟨pc, m⟩ [] ⟨pc + 2, m'⟩ ∧ Regs p.w m' F r0 (r2 % 10) (r2 / 10) ∧
      Same p.w m m' 0 0 := by
  have hM := pow_ge2 p.w hw
  obtain ⟨m1, x0, hr1, sm1⟩ := hr.wr1
    (hr.step_alu hw c0 (.inr (.inl rfl)) (hr.ev_r2 hw) (ev_imm_small hw (by decide)) (alu_mod10 (Nat.le_trans (by decide) hM) hn))
  obtain ⟨m2, x1, hr2, sm2⟩ := hr1.wr2
    (hr1.step_alu hw c1 (.inr (.inr rfl)) (hr1.ev_r2 hw) (ev_imm_small hw (by decide)) (alu_div10 (Nat.le_trans (by decide) hM) hn))
  exact ⟨m2, x0.trans x1, hr2, sm1.trans0 sm2⟩

theorem ret_tail (hr : Regs p.w m F r0 r1 r2) (hw : 2 ≤ p.w) {ra : Nat}
    (c0 : p.code[pc]? = some (.load true .state (2 * p.w) (.st p.w) (some (.imm (256 ^ p.w - p.w)))))
    (c1 : p.code[pc + 1]? = some (.j (.st (2 * p.w)))) (c2 : p.code[pc + 2]? = some .halt)
    (hF : 6 * p.w ≤ F) (hFM : F < 256 ^ p.w) (hFsz : F ≤ m.size) (hra : m.readLE (F - p.w) p.w = ra) :
    ∃ m', Reach (sphinx p) ⟨pc, m⟩ [] ⟨ra, m'⟩ ∧ Same p.w m m' 0 0 := by
  obtain ⟨m', x0, hr', sm⟩ := hr.wr0 (hr.step_ldfp hw c0 (.inl rfl) (Nat.le_refl _)
    (Nat.le_trans (Nat.le_mul_of_pos_left p.w (by decide : 0 < 6)) hF) hFM hFsz)
  exact ⟨m', x0.trans (jump_halt c1 c2 (hra ▸ hr'.ev_r0 hw)), sm⟩

theorem dispatch (hr : Regs p.w m F r0 r1 r2) (hw : 2 ≤ p.w) (hk : r1 < 256 ^ p.w / 2) {lp dn : Nat}
    (c0 : p.code[pc]? = some (.j (.imm lp)))
    (c1 : p.code[pc + 1]? = some (.hcond .hgt (.st (3 * p.w)) (.imm 0)))
    (c2 : p.code[pc + 2]? = some (.j (.imm dn))) (c3 : p.code[pc + 3]? = some .halt)
    (cl : p.code[lp]? = some (.hcond .hle (.st (3 * p.w)) (.imm 0)))
    (hlp : lp < 256 ^ p.w) (hdn : dn < 256 ^ p.w) :
    Reach (sphinx p) ⟨pc, m⟩ [] ⟨if r1 = 0 then dn else lp, m⟩ := by
  have hM := pow_ge2 p.w hw
  have z : evalArg p ⟨pc + 1, m⟩ (.imm 0) = some 0 := ev_imm_small hw (by decide)
  by_cases h0 : r1 = 0
  · rw [if_pos h0]
    have fall := jh_fall c0 c1 hlp (hr.ev_r1 hw) z
      ((hgt0 hk).trans (decide_eq_false (h0 ▸ Nat.lt_irrefl 0)))
      (fun _ => hcond_halts cl (hr.ev_r1 hw) (ev_imm_small hw (by decide))
        ((hle0 hk).trans (decide_eq_true h0)))
    exact fall.trans (jump_halt c2 c3 (ev_imm_lt hdn))
  · rw [if_neg h0]
    exact jh_taken c0 c1 hlp (hr.ev_r1 hw) z ((hgt0 hk).trans (decide_eq_true (Nat.pos_of_ne_zero h0)))
end exec

end HidVerif.Sphinx
