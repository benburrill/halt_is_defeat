import HidVerif.Proofs.Step
/-!
# C08 — the allocate/release and call/return pairs the generator emits restore `ap` and `fp`
exactly (word arithmetic, all `w`).
-/
namespace HidVerif.Sphinx
open HidVerif HidVerif.PSys

/-- `add [fp], [fp], -off` … `add [fp], [fp], off` (call / `end_call`) restores `fp` -/
theorem fp_restore_arith {M fp off : Nat} (hoff : off ≤ fp) (hfp : fp < M) (h0 : 0 < off) :
    ((fp + (M - off) % M) % M + off % M) % M = fp := by
  rw [add_neg_mod hoff h0 hfp, Nat.mod_eq_of_lt (by omega : off < M)]
  rw [show fp - off + off = fp by omega]; exact Nat.mod_eq_of_lt hfp

/-- `add [ap], [ap], size` … `sub [ap], [ap], size` (array literal / static pop) restores `ap` -/
theorem ap_static_pop_arith {M ap size : Nat} (h : ap + size < M) :
    ((ap + size % M) % M + M - size % M) % M = ap := by
  rw [Nat.mod_eq_of_lt (by omega : size < M), Nat.mod_eq_of_lt h]
  have : ap + size + M - size = ap + M := by omega
  rw [this, Nat.add_mod_right]; exact Nat.mod_eq_of_lt (by omega)

/-- the two-instruction pair on the machine: after allocating `size` bytes and releasing them
statically, `ap` holds its old value and nothing above the registers changed -/
theorem alloc_release {p : Prog} {pc pc' size ap : Nat} {m : Mem} (hw : 2 ≤ p.w)
    (c0 : p.code[pc]? = some (.alu .add 0 (.st 0) (.imm size)))
    (c1 : p.code[pc']? = some (.alu .sub 0 (.st 0) (.imm size)))
    (hsz : 5 * p.w ≤ m.size) (hap : m.readLE 0 p.w = ap) (hfit : ap + size < 256 ^ p.w) :
    ∃ m1, step p ⟨pc, m⟩ = .next ⟨pc + 1, m1⟩ none ∧
      ∀ m2, (∀ x, x < p.w → m2.rd x = m1.rd x) → m2.size = m.size →
        ∃ m3, step p ⟨pc', m2⟩ = .next ⟨pc' + 1, m3⟩ none ∧ m3.readLE 0 p.w = ap ∧
          (∀ x, p.w ≤ x → m3.rd x = m2.rd x) := by
  have hM := pow_ge2 p.w hw
  have e_ap : evalArg p ⟨pc, m⟩ (.st 0) = some ap := by
    rw [ev_st (by unfold Prog.M; omega) (by omega), hap]
  have s0 := step_alu (m := m) c0 e_ap (ev_imm size) (r := (ap + size % p.M) % p.M) rfl
    (by unfold Prog.M; omega) (by omega)
  refine ⟨_, s0, ?_⟩
  intro m2 hsame hsize
  have hap2 : m2.readLE 0 p.w = (ap + size % p.M) % p.M := by
    have : m2.readLE 0 p.w = (m.writeLE 0 p.w ((ap + size % p.M) % p.M)).readLE 0 p.w :=
      Mem.readLE_congr _ _ _ _ (fun x _ hx => hsame x (by omega))
    rw [this, Mem.readLE_writeLE_same _ _ _ _ (by omega)]
    exact Nat.mod_eq_of_lt (by unfold Prog.M; exact Nat.mod_lt _ (by omega))
  have e_ap2 : evalArg p ⟨pc', m2⟩ (.st 0) = some ((ap + size % p.M) % p.M) := by
    rw [ev_st (by unfold Prog.M; omega) (by omega), hap2]
  have s1 := step_alu (m := m2) c1 e_ap2 (ev_imm size)
    (r := ((ap + size % p.M) % p.M + p.M - size % p.M % p.M) % p.M) rfl (by unfold Prog.M; omega) (by omega)
  refine ⟨_, s1, ?_, ?_⟩
  · rw [Mem.readLE_writeLE_same _ _ _ _ (by omega)]
    rw [Nat.mod_mod]
    have := ap_static_pop_arith (M := 256 ^ p.w) hfit
    unfold Prog.M
    rw [this]; exact Nat.mod_eq_of_lt (by omega)
  · intro x hx; exact Mem.rd_writeLE_other _ _ _ _ _ (by omega)

end HidVerif.Sphinx
