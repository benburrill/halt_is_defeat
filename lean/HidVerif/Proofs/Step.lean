import HidVerif.Proofs.Prophetic
import HidVerif.Proofs.Mem
/-!
# The Sphinx machine one instruction at a time

Code placement, operand evaluation, one lemma per instruction form, the word arithmetic of the
ALU without wrap-around, and the generator's jump idioms as `Reach` facts.
-/
namespace HidVerif.Sphinx
open HidVerif HidVerif.PSys

theorem pow_ge2 (w : Nat) (hw : 2 ≤ w) : 65536 ≤ 256 ^ w := by
  calc 65536 = 256 ^ 2 := by decide
    _ ≤ 256 ^ w := Nat.pow_le_pow_right (by decide) hw

theorem w_lt_pow (w : Nat) : w < 256 ^ w := Nat.lt_pow_self (by decide)

/-- register and small frame addresses (multiples of `w` up to `64 w`) need no wrapping -/
theorem mul_w_lt_pow (w : Nat) (hw : 2 ≤ w) : 64 * w < 256 ^ w := by
  induction w with
  | zero => omega
  | succ n ih =>
    by_cases h : n = 1
    · subst h; decide
    · have := ih (by omega)
      rw [Nat.pow_succ]; omega

theorem five_w_lt (w : Nat) (hw : 2 ≤ w) : 5 * w < 256 ^ w := by
  have := mul_w_lt_pow w hw; omega

/-- register `i` ends where register `j > i` begins; `fp` at `w` lies below register `j ≥ 2` -/
theorem reg_le {w i j : Nat} (h : i < j) : i * w + w ≤ j * w := Nat.succ_mul i w ▸ Nat.mul_le_mul_right w h
theorem le_frame {w i j F : Nat} (h : i ≤ j) (hF : j * w ≤ F) : i * w ≤ F :=
  Nat.le_trans (Nat.mul_le_mul_right w h) hF
theorem fp_le {w j : Nat} (h : 2 ≤ j) : w + w ≤ j * w := Nat.two_mul w ▸ Nat.mul_le_mul_right w h

theorem reg_lt {w : Nat} (hw : 2 ≤ w) {i : Nat} (hi : i ≤ 5) : i * w < 256 ^ w :=
  Nat.lt_of_le_of_lt (Nat.mul_le_mul_right _ hi) (five_w_lt w hw)

theorem pow256_even (w : Nat) (hw : 1 ≤ w) : 256 ^ w % 2 = 0 := by
  obtain ⟨k, rfl⟩ : ∃ k, w = k + 1 := ⟨w - 1, by omega⟩
  rw [Nat.pow_succ]; omega

def PlacedAt (p : Prog) (base : Nat) (code : List Instr) : Prop :=
  ∀ i (h : i < code.length), p.code[base + i]? = some code[i]

theorem PlacedAt.append {p : Prog} {b : Nat} {l₁ l₂ : List Instr} (h : PlacedAt p b (l₁ ++ l₂)) :
    PlacedAt p b l₁ ∧ PlacedAt p (b + l₁.length) l₂ := by
  constructor
  · intro i hi
    have := h i (by simp; omega)
    rwa [List.getElem_append_left hi] at this
  · intro i hi
    have := h (l₁.length + i) (by simp; omega)
    rw [List.getElem_append_right (by omega)] at this
    simp only [Nat.add_sub_cancel_left] at this
    rwa [Nat.add_assoc]

/-- `hx` is closed by `rfl` for a literal list -/
theorem PlacedAt.get {p : Prog} {b : Nat} {c : List Instr} (h : PlacedAt p b c) (i : Nat) {x : Instr}
    (hx : c[i]? = some x) : p.code[b + i]? = some x := by
  obtain ⟨hi, rfl⟩ := List.getElem?_eq_some_iff.1 hx
  exact h i hi

theorem PlacedAt.drop {p : Prog} {b : Nat} {c : List Instr} (h : PlacedAt p b c) (n : Nat) :
    PlacedAt p (b + n) (c.drop n) := by
  intro i hi
  rw [List.length_drop] at hi
  rw [List.getElem_drop, Nat.add_assoc]
  exact h (n + i) (by omega)

theorem placed_one {p : Prog} {pc : Nat} {i : Instr} (h : PlacedAt p pc [i]) : p.code[pc]? = some i := by
  simpa using h 0 (by simp)

theorem placed_cons {p : Prog} {pc : Nat} {i : Instr} {c : List Instr} (h : PlacedAt p pc (i :: c)) :
    p.code[pc]? = some i ∧ PlacedAt p (pc + 1) c :=
  ⟨placed_one (PlacedAt.append (l₁ := [i]) h).1, (PlacedAt.append (l₁ := [i]) h).2⟩

def OffsetsFrom : Nat → List (Nat × List Instr) → Prop
  | _, [] => True
  | n, (o, c) :: rs => o = n ∧ OffsetsFrom (n + c.length) rs

theorem placed_routines {p : Prog} {B n : Nat} {rs : List (Nat × List Instr)}
    (hoff : OffsetsFrom n rs) (h : PlacedAt p (B + n) (rs.map (·.2)).flatten) :
    ∀ oc ∈ rs, PlacedAt p (B + oc.1) oc.2 := by
  induction rs generalizing n with
  | nil => intro _ h; cases h
  | cons r rs ih =>
    obtain ⟨o, c⟩ := r
    obtain ⟨ho, hrest⟩ := hoff
    simp only [List.map_cons, List.flatten_cons] at h
    obtain ⟨h1, h2⟩ := h.append
    intro oc hmem
    rcases List.mem_cons.1 hmem with rfl | hm
    · simpa [ho] using h1
    · exact ih hrest (by simpa [Nat.add_assoc] using h2) oc hm

section
variable {p : Prog} {pc : Nat} {m : Mem}

theorem ev_imm (v : Nat) : evalArg p ⟨pc, m⟩ (.imm v) = some (v % p.M) := rfl

theorem ev_imm_lt {v : Nat} (h : v < 256 ^ p.w) : evalArg p ⟨pc, m⟩ (.imm v) = some v :=
  congrArg some (Nat.mod_eq_of_lt h)

/-- constants of the generated code are far below the smallest modulus `256 ^ 2` -/
theorem ev_imm_small {v : Nat} (hw : 2 ≤ p.w) (hv : v < 65536) : evalArg p ⟨pc, m⟩ (.imm v) = some v :=
  ev_imm_lt (Nat.lt_of_lt_of_le hv (pow_ge2 p.w hw))

theorem ev_st {a : Nat} (ha : a < p.M) (hb : a + p.w ≤ m.size) :
    evalArg p ⟨pc, m⟩ (.st a) = some (m.readLE a p.w) := by
  simp [evalArg, Nat.mod_eq_of_lt ha, hb]

theorem ev_cn {a : Nat} (ha : a < p.M) (hb : a + p.w ≤ p.const.size) :
    evalArg p ⟨pc, m⟩ (.cn a) = some (p.const.readLE a p.w) := by
  simp [evalArg, Nat.mod_eq_of_lt ha, hb]

theorem step_halt (hc : p.code[pc]? = some .halt) : step p ⟨pc, m⟩ = .halt := by
  simp [step, hc]

theorem step_hcond {c a b x y} (hc : p.code[pc]? = some (.hcond c a b))
    (ha : evalArg p ⟨pc, m⟩ a = some x) (hb : evalArg p ⟨pc, m⟩ b = some y) :
    step p ⟨pc, m⟩ = if haltCond p.M c x y then .halt else .next ⟨pc + 1, m⟩ none := by
  simp [step, hc, ha, hb]

theorem step_hcond_t {c a b x y} (hc : p.code[pc]? = some (.hcond c a b))
    (ha : evalArg p ⟨pc, m⟩ a = some x) (hb : evalArg p ⟨pc, m⟩ b = some y)
    (h : haltCond (256 ^ p.w) c x y = true) : step p ⟨pc, m⟩ = .halt :=
  (step_hcond hc ha hb).trans (if_pos h)

theorem step_hcond_f {c a b x y} (hc : p.code[pc]? = some (.hcond c a b))
    (ha : evalArg p ⟨pc, m⟩ a = some x) (hb : evalArg p ⟨pc, m⟩ b = some y)
    (h : haltCond (256 ^ p.w) c x y = false) : step p ⟨pc, m⟩ = .next ⟨pc + 1, m⟩ none :=
  (step_hcond hc ha hb).trans (if_neg (by rw [Prog.M, h]; exact Bool.false_ne_true))

theorem step_j {t x} (hc : p.code[pc]? = some (.j t)) (ht : evalArg p ⟨pc, m⟩ t = some x) :
    step p ⟨pc, m⟩ = .jump ⟨pc + 1, m⟩ ⟨x, m⟩ := by
  simp [step, hc, ht]

theorem step_mov {d v x} (hc : p.code[pc]? = some (.mov d v))
    (hv : evalArg p ⟨pc, m⟩ v = some x) (hd : d < p.M) (hb : d + p.w ≤ m.size) :
    step p ⟨pc, m⟩ = .next ⟨pc + 1, m.writeLE d p.w x⟩ none := by
  simp [step, hc, hv, Nat.mod_eq_of_lt hd, hb]

theorem step_alu {op d a b x y r} (hc : p.code[pc]? = some (.alu op d a b))
    (ha : evalArg p ⟨pc, m⟩ a = some x) (hb : evalArg p ⟨pc, m⟩ b = some y)
    (hr : aluOp p.M (8 * p.w) op x y = some r) (hd : d < p.M) (hbd : d + p.w ≤ m.size) :
    step p ⟨pc, m⟩ = .next ⟨pc + 1, m.writeLE d p.w r⟩ none := by
  simp [step, hc, ha, hb, hr, Nat.mod_eq_of_lt hd, hbd]

def secMem (p : Prog) (m : Mem) : Sec → Mem
  | .state => m
  | .const => p.const

theorem step_load {word sec d src off b o a k}
    (hc : p.code[pc]? = some (.load word sec d src off))
    (hs : evalArg p ⟨pc, m⟩ src = some b) (ho : off.elim (some 0) (evalArg p ⟨pc, m⟩) = some o)
    (hA : (b + o) % p.M = a) (hk : (if word then p.w else 1) = k)
    (ha : a + k ≤ (secMem p m sec).size) (hd : d < p.M) (hbd : d + p.w ≤ m.size) :
    step p ⟨pc, m⟩ = .next ⟨pc + 1, m.writeLE d p.w ((secMem p m sec).readLE a k)⟩ none := by
  subst hA hk
  cases off <;> cases sec <;> simp_all [step, secMem, Nat.mod_eq_of_lt hd]

theorem step_swso {dst off v : Arg} {b o x : Nat} (hc : p.code[pc]? = some (.store true dst (some off) v))
    (hd : evalArg p ⟨pc, m⟩ dst = some b) (ho : evalArg p ⟨pc, m⟩ off = some o)
    (hv : evalArg p ⟨pc, m⟩ v = some x) (ha : (b + o) % p.M + p.w ≤ m.size) :
    step p ⟨pc, m⟩ = .next ⟨pc + 1, m.writeLE ((b + o) % p.M) p.w x⟩ none := by
  simp [step, hc, hd, ho, hv, ha]

theorem step_lwso {d src off b o} (hc : p.code[pc]? = some (.load true .state d src (some off)))
    (hs : evalArg p ⟨pc, m⟩ src = some b) (ho : evalArg p ⟨pc, m⟩ off = some o)
    (ha : (b + o) % p.M + p.w ≤ m.size) (hd : d < p.M) (hbd : d + p.w ≤ m.size) :
    step p ⟨pc, m⟩ = .next ⟨pc + 1, m.writeLE d p.w (m.readLE ((b + o) % p.M) p.w)⟩ none :=
  step_load (sec := .state) hc hs ho rfl rfl ha hd hbd

theorem step_sbs {dst v a x} (hc : p.code[pc]? = some (.store false dst none v))
    (hd : evalArg p ⟨pc, m⟩ dst = some a) (hv : evalArg p ⟨pc, m⟩ v = some x)
    (ha : a < p.M) (hb : a + 1 ≤ m.size) :
    step p ⟨pc, m⟩ = .next ⟨pc + 1, m.writeLE a 1 x⟩ none := by
  simp [step, hc, hd, hv, Nat.mod_eq_of_lt ha, hb]

theorem step_yld {a x} (hc : p.code[pc]? = some (.yld a)) (ha : evalArg p ⟨pc, m⟩ a = some x) :
    step p ⟨pc, m⟩ = .next ⟨pc + 1, m⟩ (some (.out (x % 256))) := by
  simp [step, hc, ha]

theorem step_sleep {a x} (hc : p.code[pc]? = some (.sleep a)) (ha : evalArg p ⟨pc, m⟩ a = some x) :
    step p ⟨pc, m⟩ = .next ⟨pc + 1, m⟩ (some (.sleep x)) := by
  simp [step, hc, ha]

theorem step_flag {f} (hc : p.code[pc]? = some (.flag f)) :
    step p ⟨pc, m⟩ = .next ⟨pc + 1, m⟩ (some (.flag f)) := by
  simp [step, hc]
end

theorem toS_small {M x : Nat} (h : x < M / 2) : toS M x = (x : Int) := by simp [toS, h]
theorem toS_big {M x : Nat} (h : ¬ x < M / 2) : toS M x = (x : Int) - M := by simp [toS, h]

theorem wrapI_lt {M : Nat} (hM : 0 < M) (v : Int) : wrapI M v < M := by
  unfold wrapI
  have h1 : 0 ≤ v % (M : Int) := Int.emod_nonneg _ (by omega)
  have h2 : v % (M : Int) < (M : Int) := Int.emod_lt_of_pos _ (by omega)
  omega

theorem wrapI_nat {M n : Nat} (h : n < M) : wrapI M (n : Int) = n := by
  unfold wrapI
  have : ((n : Int) % (M : Int)) = (n : Int) := Int.emod_eq_of_lt (by omega) (by omega)
  rw [this]; simp

theorem wrapI_neg {M n : Nat} (h0 : 0 < n) (h : n ≤ M) : wrapI M (-(n : Int)) = M - n := by
  unfold wrapI
  have h1 : (-(n : Int)) % (M : Int) = ((-(n : Int)) + (M : Int)) % (M : Int) := by
    rw [Int.add_emod_right]
  have h2 : ((-(n : Int)) + (M : Int)) % (M : Int) = (-(n : Int)) + (M : Int) :=
    Int.emod_eq_of_lt (by omega) (by omega)
  rw [h1, h2]; omega

theorem toS_zero {M : Nat} (h : 2 ≤ M) : toS M 0 = 0 := by
  simpa using toS_small (M := M) (x := 0) (by omega)

theorem hle0 {M k : Nat} (hk : k < M / 2) : haltCond M .hle k 0 = decide (k = 0) := by
  simp only [haltCond, toS_small hk, toS_zero (by omega : 2 ≤ M)]; by_cases h : k = 0 <;> simp [h] <;> omega
theorem hgt0 {M k : Nat} (hk : k < M / 2) : haltCond M .hgt k 0 = decide (0 < k) := by
  simp only [haltCond, toS_small hk, toS_zero (by omega : 2 ≤ M)]; by_cases h : 0 < k <;> simp [h] <;> omega
theorem hge0 {M v : Nat} (hM : 2 ≤ M) (hv : v < M) : haltCond M .hge v 0 = decide (v < M / 2) := by
  simp only [haltCond, toS_zero hM]
  by_cases h : v < M / 2
  · simp [toS_small h, h]
  · simp only [toS_big h, h, decide_false, decide_eq_false_iff_not]; omega
theorem hlt0 {M v : Nat} (hM : 2 ≤ M) (hv : v < M) : haltCond M .hlt v 0 = decide (¬ v < M / 2) := by
  simp only [haltCond, toS_zero hM]
  by_cases h : v < M / 2
  · simp only [toS_small h, h, not_true_eq_false, decide_false, decide_eq_false_iff_not]; omega
  · simp only [toS_big h, h, not_false_eq_true, decide_true, decide_eq_true_eq]; omega
theorem hne0 {M x : Nat} : haltCond M .hne x 0 = decide (x ≠ 0) := by
  by_cases h : x = 0 <;> simp [haltCond, h]
theorem heq0 {M x : Nat} : haltCond M .heq x 0 = decide (x = 0) := by
  by_cases h : x = 0 <;> simp [haltCond, h]

theorem sub_mod_small {M a b : Nat} (hb : b ≤ a) (ha : a < M) : (a + M - b % M) % M = a - b := by
  rw [Nat.mod_eq_of_lt (by omega : b < M)]
  have : a + M - b = (a - b) + M := by omega
  rw [this, Nat.add_mod_right]; exact Nat.mod_eq_of_lt (by omega)

theorem add_neg_mod {M a b : Nat} (hb : b ≤ a) (hb0 : 0 < b) (ha : a < M) :
    (a + (M - b) % M) % M = a - b := by
  rw [Nat.mod_eq_of_lt (by omega : M - b < M)]
  have : a + (M - b) = (a - b) + M := by omega
  rw [this, Nat.add_mod_right]; exact Nat.mod_eq_of_lt (by omega)

theorem aluOp_lt {M n : Nat} {op : AluOp} {x y v : Nat} (hM : 0 < M) (h : aluOp M n op x y = some v) :
    v < M := by
  have hwr : ∀ z : Int, wrapI M z < M := wrapI_lt hM
  cases op <;> simp only [aluOp] at h
  case div | mod =>
    split at h
    · cases h
    · exact Option.some.inj h ▸ hwr _
  case asl =>
    split at h
    · exact Option.some.inj h ▸ Nat.mod_lt _ hM
    · exact Option.some.inj h ▸ hM
  case asr => exact Option.some.inj h ▸ hwr _
  all_goals exact Option.some.inj h ▸ Nat.mod_lt _ hM

theorem alu_add {M k a b : Nat} : aluOp M k .add a b = some ((a + b) % M) := rfl
theorem alu_sub {M k a b : Nat} : aluOp M k .sub a b = some ((a + M - b % M) % M) := rfl
theorem alu_add_lt {M n a b : Nat} (h : a + b < M) : aluOp M n .add a b = some (a + b) :=
  congrArg some (Nat.mod_eq_of_lt h)
theorem alu_sub_le {M n a b : Nat} (hb : b ≤ a) (ha : a < M) : aluOp M n .sub a b = some (a - b) :=
  congrArg some (sub_mod_small hb ha)

theorem alu_mod10 {M k n : Nat} (hM : 22 ≤ M) (hn : n < M / 2) :
    aluOp M k .mod n 10 = some (n % 10) := by
  simp only [aluOp]
  rw [if_neg (by rw [Nat.mod_eq_of_lt (by omega : 10 < M)]; omega)]
  rw [toS_small hn, toS_small (by omega : 10 < M / 2)]
  rw [Int.fmod_eq_emod_of_nonneg _ (by omega)]
  have : ((n : Int) % ((10 : Nat) : Int)) = ((n % 10 : Nat) : Int) := by omega
  rw [this, wrapI_nat (by omega)]

theorem alu_div10 {M k n : Nat} (hM : 22 ≤ M) (hn : n < M / 2) :
    aluOp M k .div n 10 = some (n / 10) := by
  simp only [aluOp]
  rw [if_neg (by rw [Nat.mod_eq_of_lt (by omega : 10 < M)]; omega)]
  rw [toS_small hn, toS_small (by omega : 10 < M / 2)]
  rw [Int.fdiv_eq_ediv_of_nonneg _ (by omega)]
  have : ((n : Int) / ((10 : Nat) : Int)) = ((n / 10 : Nat) : Int) := by omega
  rw [this, wrapI_nat (by omega)]

section
variable {p : Prog} {pc : Nat} {m : Mem}

theorem hcond_halts {c a b x y} (hc : p.code[pc]? = some (.hcond c a b))
    (ha : evalArg p ⟨pc, m⟩ a = some x) (hb : evalArg p ⟨pc, m⟩ b = some y)
    (h : haltCond (256 ^ p.w) c x y = true) : Halts (sphinx p) ⟨pc, m⟩ :=
  Halts.halt (sys := sphinx p) (step_hcond_t hc ha hb h)

theorem hcond_pass {c a b x y} (hc : p.code[pc]? = some (.hcond c a b))
    (ha : evalArg p ⟨pc, m⟩ a = some x) (hb : evalArg p ⟨pc, m⟩ b = some y)
    (h : haltCond (256 ^ p.w) c x y = false) : Reach (sphinx p) ⟨pc, m⟩ [] ⟨pc + 1, m⟩ :=
  Reach.of_next (sys := sphinx p) (step_hcond_f hc ha hb h)

theorem yld_imm {v : Nat} (hc : p.code[pc]? = some (.yld (.imm v))) (hv : v < 256) (hw : 2 ≤ p.w) :
    Reach (sphinx p) ⟨pc, m⟩ [Ev.out v] ⟨pc + 1, m⟩ := by
  have s := step_yld (m := m) hc (ev_imm_lt (by have := pow_ge2 p.w hw; omega))
  rw [Nat.mod_eq_of_lt hv] at s
  exact Reach.of_next (sys := sphinx p) s
end

section
variable {p : Prog} {pc T : Nat} {m : Mem}

theorem jh_taken {c a b x y} (c0 : p.code[pc]? = some (.j (.imm T))) (c1 : p.code[pc + 1]? = some (.hcond c a b))
    (hT : T < 256 ^ p.w) (ha : evalArg p ⟨pc + 1, m⟩ a = some x) (hb : evalArg p ⟨pc + 1, m⟩ b = some y)
    (h : haltCond (256 ^ p.w) c x y = true) : Reach (sphinx p) ⟨pc, m⟩ [] ⟨T, m⟩ :=
  Reach.jump_taken (sys := sphinx p) (step_j c0 (ev_imm_lt hT)) (step_hcond_t c1 ha hb h)

/-- `hh` holds because the generator re-tests the inverse condition at `T` -/
theorem jh_fall {c a b x y} (c0 : p.code[pc]? = some (.j (.imm T))) (c1 : p.code[pc + 1]? = some (.hcond c a b))
    (hT : T < 256 ^ p.w) (ha : evalArg p ⟨pc + 1, m⟩ a = some x) (hb : evalArg p ⟨pc + 1, m⟩ b = some y)
    (h : haltCond (256 ^ p.w) c x y = false)
    (hh : Halts (sphinx p) ⟨pc + 1 + 1, m⟩ → Halts (sphinx p) ⟨T, m⟩) :
    Reach (sphinx p) ⟨pc, m⟩ [] ⟨pc + 1 + 1, m⟩ :=
  Reach.jump_fallthrough (sys := sphinx p) (step_j c0 (ev_imm_lt hT)) (step_hcond_f c1 ha hb h) hh

theorem jump_halt {t : Arg} (c0 : p.code[pc]? = some (.j t)) (c1 : p.code[pc + 1]? = some .halt)
    (ht : evalArg p ⟨pc, m⟩ t = some T) : Reach (sphinx p) ⟨pc, m⟩ [] ⟨T, m⟩ :=
  Reach.jump_taken (sys := sphinx p) (step_j c0 ht) (step_halt c1)
end

end HidVerif.Sphinx
