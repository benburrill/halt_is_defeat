import HidVerif.Proofs.WriteLib
/-!
# The byte-printing loop shared by `write_string` and `write_state_byte_array`

`write_string_loop` (+7 of `write_string`) and `write_state_byte_array_loop` (+6 of
`write_state_byte_array`) are the same ten instructions up to the section the byte load reads and
the address the back edge jumps to; `write_const_byte_array` and `write_int` jump into them.
-/
namespace HidVerif.Sphinx
open HidVerif HidVerif.PSys HidVerif.Gen

/-- the loop at code address `L`, reading section `sec`; falls into the return sequence -/
def byteLoop (w : Nat) (sec : Sec) (L : Nat) : List Instr := [
  .hcond .hle (.st (3 * w)) (.imm 0),
  .load false sec (4 * w) (.st (2 * w)) none,
  .yld (.st (4 * w)),
  .alu .add (2 * w) (.st (2 * w)) (.imm 1),
  .alu .sub (3 * w) (.st (3 * w)) (.imm 1),
  .j (.imm L),
  .hcond .hgt (.st (3 * w)) (.imm 0),
  .load true .state (2 * w) (.st w) (some (.imm (256 ^ w - w))),
  .j (.st (2 * w)),
  .halt]

theorem Placed.wsba {p : Prog} {B : Nat} (hp : Placed p B) :
    PlacedAt p (B + off_write_state_byte_array) (code_write_state_byte_array p.w B) :=
  hp.routine (by simp [stdlibRoutineCode])

theorem Placed.wstr {p : Prog} {B : Nat} (hp : Placed p B) :
    PlacedAt p (B + off_write_string) (code_write_string p.w B) := hp.routine (by simp [stdlibRoutineCode])

theorem Placed.wsba_loop {p : Prog} {B : Nat} (hp : Placed p B) :
    PlacedAt p (B + off_write_state_byte_array + 6)
      (byteLoop p.w .state (B + off_write_state_byte_array + 6)) := hp.wsba.drop 6

theorem Placed.wstr_loop {p : Prog} {B : Nat} (hp : Placed p B) :
    PlacedAt p (B + off_write_string + 7) (byteLoop p.w .const (B + off_write_string + 7)) :=
  hp.wstr.drop 7

theorem byte_loop (p : Prog) (sec : Sec) (L : Nat) (hw : 2 ≤ p.w) (hL : L < 256 ^ p.w)
    (hpl : PlacedAt p L (byteLoop p.w sec L)) :
    ∀ (k : Nat) (m : Mem) (F a r2 ra : Nat),
      0 < k → k < 256 ^ p.w / 2 → a + k < 256 ^ p.w → a + k ≤ (secMem p m sec).size →
      (sec = .state → 5 * p.w ≤ a) →
      6 * p.w ≤ F → F < 256 ^ p.w → F ≤ m.size → m.readLE (F - p.w) p.w = ra →
      Regs p.w m F a k r2 →
      ∃ m', Reach (sphinx p) ⟨L, m⟩ (outs (bytesAt (secMem p m sec) a k)) ⟨ra, m'⟩ ∧
        Same p.w m m' 0 0 := by
  have hM := pow_ge2 p.w hw
  have c0 : p.code[L]? = _ := hpl.get 0 rfl
  have c1 := hpl.get 1 rfl; have c2 := hpl.get 2 rfl; have c3 := hpl.get 3 rfl
  have c4 := hpl.get 4 rfl; have c5 := hpl.get 5 rfl; have c6 := hpl.get 6 rfl
  have c7 := hpl.get 7 rfl; have c8 := hpl.get 8 rfl; have c9 := hpl.get 9 rfl
  intro k
  induction k with
  | zero => intro m F a r2 ra h0; exact absurd h0 (Nat.lt_irrefl 0)
  | succ k ih =>
    intro m F a r2 ra _ hk ha hasz h5a hF hFM hFsz hra hr
    -- one round: test, load, yield, advance, count down
    have x0 := hcond_pass (m := m) c0 (hr.ev_r1 hw) (ev_imm_small hw (by decide))
      ((hle0 hk).trans (decide_eq_false (Nat.succ_ne_zero k)))
    have ⟨d1, d2⟩ := hr.wr_ok hw (.inr (.inr rfl))
    obtain ⟨m1, x1, hr1, sm1⟩ := hr.wr2
      ⟨(step_load (a := a) (k := 1) c1 (hr.ev_r0 hw) rfl
        (Nat.mod_eq_of_lt (show a < 256 ^ p.w from Nat.lt_of_le_of_lt (Nat.le_add_right _ _) ha)) rfl
        (Nat.le_trans (Nat.add_le_add_left (Nat.succ_le_succ (Nat.zero_le k)) a) hasz) d1 d2).trans (by rw [Mem.readLE_one]),
        Nat.lt_of_lt_of_le (Mem.rd_lt _ a) (Nat.le_trans (by decide) hM)⟩
    have x2 := Reach.of_next (sys := sphinx p) (step_yld c2 (hr1.ev_r2 hw))
    obtain ⟨m3, x3, hr3, sm3⟩ := hr1.wr0
      (hr1.step_alu hw c3 (.inl rfl) (hr1.ev_r0 hw) (ev_imm_small hw (by decide))
        (alu_add_lt (Nat.lt_of_le_of_lt (Nat.add_le_add_left (Nat.succ_le_succ (Nat.zero_le k)) a) ha)))
    obtain ⟨m4, x4, hr4, sm4⟩ := hr3.wr1
      (hr3.step_alu hw c4 (.inr (.inl rfl)) (hr3.ev_r1 hw) (ev_imm_small hw (by decide))
        (alu_sub_le (Nat.succ_le_succ (Nat.zero_le k)) (Nat.lt_of_lt_of_le hk (Nat.div_le_self _ _))))
    have sm := (sm1.trans0 sm3).trans0 sm4
    have body := x0.trans (x1.trans (x2.trans (x3.trans x4)))
    have hra4 : m4.readLE (F - p.w) p.w = ra := sm.ra hF (Nat.zero_le _) hra
    have z : evalArg p ⟨L + 5 + 1, m4⟩ (.imm 0) = some 0 := ev_imm_small hw (by decide)
    have e6 := hgt0 (M := 256 ^ p.w) (k := k) (Nat.lt_of_succ_lt hk)
    by_cases hk0 : k = 0
    · subst hk0
      have fall := jh_fall c5 c6 hL (hr4.ev_r1 hw) z e6 (fun _ =>
        hcond_halts c0 (hr4.ev_r1 hw) (ev_imm_small hw (by decide)) (hle0 (Nat.lt_of_succ_lt hk)))
      obtain ⟨m', ret, sm'⟩ := ret_tail hr4 hw c7 c8 c9 hF hFM (sm.1 ▸ hFsz) hra4
      exact ⟨m', by simpa [outs, bytesAt, evl] using body.trans (fall.trans ret), sm.trans0 sm'⟩
    · have back := jh_taken c5 c6 hL (hr4.ev_r1 hw) z (e6.trans (decide_eq_true (Nat.pos_of_ne_zero hk0)))
      have hsec : bytesAt (secMem p m4 sec) (a + 1) k = bytesAt (secMem p m sec) (a + 1) k ∧
          a + 1 + k ≤ (secMem p m4 sec).size := by
        cases sec
        · exact ⟨sm.bytesAt _ _ (Nat.le_succ_of_le (h5a rfl)) (.inr (Nat.zero_le _)),
            by show _ ≤ m4.size; rw [sm.1]; exact (Nat.add_assoc a 1 k ▸ Nat.add_comm 1 k ▸ hasz)⟩
        · exact ⟨rfl, Nat.add_assoc a 1 k ▸ Nat.add_comm 1 k ▸ hasz⟩
      obtain ⟨m', hreach, hsame⟩ := ih m4 F (a + 1) _ ra (Nat.pos_of_ne_zero hk0) (Nat.lt_of_succ_lt hk)
        (by rw [Nat.add_assoc, Nat.add_comm 1 k]; exact ha)
        hsec.2 (fun h => Nat.le_succ_of_le (h5a h)) hF hFM (sm.1 ▸ hFsz) hra4 hr4
      rw [hsec.1] at hreach
      exact ⟨m', by simpa [outs, bytesAt, evl] using body.trans (back.trans hreach), sm.trans0 hsame⟩

/-- `L + 7` is the return sequence, where the dispatcher sends an empty array -/
theorem bytes_out {p : Prog} {m : Mem} {F r2 : Nat} (sec : Sec) (L : Nat) (hw : 2 ≤ p.w) (hL : L + 7 < 256 ^ p.w)
    (hpl : PlacedAt p L (byteLoop p.w sec L)) {a k ra : Nat}
    (hk : k < 256 ^ p.w / 2) (ha : a + k < 256 ^ p.w) (hasz : a + k ≤ (secMem p m sec).size)
    (h5a : sec = .state → 5 * p.w ≤ a)
    (hF : 6 * p.w ≤ F) (hFM : F < 256 ^ p.w) (hFsz : F ≤ m.size) (hra : m.readLE (F - p.w) p.w = ra)
    (hr : Regs p.w m F a k r2) :
    ∃ m', Reach (sphinx p) ⟨if k = 0 then L + 7 else L, m⟩ (outs (bytesAt (secMem p m sec) a k)) ⟨ra, m'⟩ ∧
      Same p.w m m' 0 0 := by
  by_cases hk0 : k = 0
  · subst hk0
    rw [if_pos rfl]
    exact ret_tail hr hw (hpl.get 7 rfl) (hpl.get 8 rfl) (hpl.get 9 rfl) hF hFM hFsz hra
  · rw [if_neg hk0]
    exact byte_loop p sec L hw (Nat.lt_of_le_of_lt (Nat.le_add_right _ _) hL) hpl k m F a r2 ra
      (Nat.pos_of_ne_zero hk0) hk ha hasz h5a
      hF hFM hFsz hra hr

theorem print_loop (p : Prog) (B : Nat) (hp : Placed p B) :
    ∀ (k : Nat) (m : Mem) (F a r2 ra : Nat),
      0 < k → k < 256 ^ p.w / 2 → a + k < 256 ^ p.w → 5 * p.w ≤ a → a + k ≤ m.size →
      6 * p.w ≤ F → F < 256 ^ p.w → F ≤ m.size → m.readLE (F - p.w) p.w = ra →
      Regs p.w m F a k r2 →
      ∃ m', Reach (sphinx p) ⟨B + off_write_state_byte_array + 6, m⟩ (outs (bytesAt m a k)) ⟨ra, m'⟩ ∧
        Same p.w m m' 0 0 :=
  fun k m F a r2 ra h0 hk ha h5 hasz =>
    byte_loop p .state _ hp.hw (hp.addr_lt _ 6 (by decide)) hp.wsba_loop k m F a r2 ra h0 hk ha hasz
      (fun _ => h5)

end HidVerif.Sphinx
