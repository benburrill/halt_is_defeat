import HidVerif.Proofs.ParserBasics
/-!
# The expression parser groups by the documented table: print → parse round trip

`pr L e` prints an operator expression `e : OE` with the *minimal* parentheses the documented
precedence/associativity table requires in a position of level `L`; `toP e` is its parse tree.  `parse_pr`: the
model of `hidc.parser` (`psExpr`) returns exactly `toP e` on `pr 8 e`, provided what follows cannot continue an
expression.  `Evn g r` says `g fuel = r` for all sufficiently large fuel; it composes without a separate
monotonicity proof.
-/
namespace HidVerif.Hid.Parse
open HidVerif.Hid.Lex HidVerif.Gen

/-- operator expressions; `un t cls`: prefix operator with token `OpToken.t` and node class `cls`;
`bin L t cls`: binary operator of level `L` -/
inductive OE
  | lit (v : Nat)
  | var (n : List CP)
  | un (t cls : String) (e : OE)
  | bin (L : Nat) (t cls : String) (l r : OE)
  | paren (e : OE)          -- parentheses the programmer wrote although the table does not require them
  | cast (e : OE) (tn : String) (ty : Ty)   -- `e is T`; `tn` is the token name of the scalar type `ty`
  | index (e i : OE)
  | len (e : OE)
  deriving Repr

namespace OE
def toP : OE → PExpr
  | .lit v => .int v
  | .var n => .var n
  | .un _ cls e => .un cls e.toP
  | .bin _ _ cls l r => .bin cls l.toP r.toP
  | .paren e => e.toP
  | .cast e _ ty => .is_ e.toP ty
  | .index e i => .index e.toP i.toP
  | .len e => .len e.toP

def prec : OE → Nat
  | .lit _ => 0 | .var _ => 0 | .un _ _ _ => 2 | .bin L _ _ _ _ => L | .paren _ => 0
  | .cast _ _ _ => 3 | .index _ _ => 1 | .len _ => 1

def WF : OE → Prop
  | .lit _ => True
  | .var _ => True
  | .un t cls e => (t, cls) ∈ unaryOps ∧ e.WF
  | .bin L t cls l r => 4 ≤ L ∧ L ≤ 8 ∧ (t, cls) ∈ binOps L ∧ l.WF ∧ r.WF
  | .paren e => e.WF ∧ e.prec ≤ 8
  | .cast e tn ty => tyOfName tn = some ty ∧ ty ≠ .empty ∧ e.WF
  | .index e i => e.WF ∧ i.WF ∧ i.prec ≤ 8
  | .len e => e.WF

end OE

def tkOp (t : String) : Tok := .enum ("OpToken." ++ t)
def tkL : Tok := .enum "BracToken.LPAREN"
def tkR : Tok := .enum "BracToken.RPAREN"
def tkLS : Tok := .enum "BracToken.LSQUARE"
def tkRS : Tok := .enum "BracToken.RSQUARE"
def tkDot : Tok := .enum "SepToken.DOT"
def tkIS : Tok := .enum "OpToken.IS"
def tkLength : Tok := .ident (cps "length") .none

/-- parenthesise exactly when the operator of `e` binds weaker than the position allows -/
def wrap (L : Nat) (e : OE) (b : List Tok) : List Tok := if e.prec ≤ L then b else tkL :: (b ++ [tkR])

/-- tokens of `e` without outer parentheses: operands of a level-`L` operator are printed at level
`L` on the left (left associativity) and `L - 1` on the right -/
def body : OE → List Tok
  | .lit v => [.int v]
  | .var n => [.ident n .none]
  | .un t _ e => tkOp t :: wrap 2 e (body e)
  | .bin L t _ l r => wrap L l (body l) ++ tkOp t :: wrap (L - 1) r (body r)
  | .paren e => tkL :: (body e ++ [tkR])
  | .cast e tn _ => wrap 2 e (body e) ++ [tkIS, .enum tn]
  | .index e i => wrap 1 e (body e) ++ tkLS :: (body i ++ [tkRS])
  | .len e => wrap 1 e (body e) ++ [tkDot, tkLength]

def pr (L : Nat) (e : OE) : List Tok := wrap L e (body e)

def atomStart : Tok → Bool
  | .int _ => true | .ident _ _ => true | .enum n => n == "BracToken.LPAREN" | _ => false

theorem atomStart_tkL : atomStart tkL = true := by decide +kernel

theorem pr_low (e : OE) (L : Nat) (hp : e.prec ≤ L) : pr L e = body e := by
  unfold pr wrap; rw [if_pos hp]

theorem pr_high (e : OE) (L : Nat) (hp : L < e.prec) : pr L e = tkL :: (body e ++ [tkR]) := by
  unfold pr wrap; rw [if_neg (by omega)]

theorem prec_le_8 : ∀ (e : OE), e.WF → e.prec ≤ 8 := by
  intro e hwf
  cases e with
  | bin L t cls l r => exact hwf.2.1
  | _ => simp [OE.prec]

theorem pr1_start : ∀ (e : OE), e.WF → ∃ t ts, pr 1 e = t :: ts ∧ atomStart t = true := by
  intro e
  induction e with
  | lit v => intro _; exact ⟨_, _, rfl, rfl⟩
  | var n => intro _; exact ⟨_, _, rfl, rfl⟩
  | un t cls e ih => intro _; exact ⟨tkL, _, pr_high _ 1 (by decide : 1 < 2),atomStart_tkL⟩
  | bin L t cls l r _ _ => intro hwf; exact ⟨tkL, _, pr_high _ 1 (Nat.lt_of_lt_of_le (by decide : 1 < 4) hwf.1),atomStart_tkL⟩
  | paren e ih => intro _; exact ⟨tkL, _, rfl,atomStart_tkL⟩
  | cast e tn ty ih => intro _; exact ⟨tkL, _, pr_high _ 1 (by decide : 1 < 3),atomStart_tkL⟩
  | index e i ihe _ =>
    intro hwf
    obtain ⟨t0, ts0, h0, ha⟩ := ihe hwf.1
    refine ⟨t0, ts0 ++ tkLS :: (body i ++ [tkRS]), ?_, ha⟩
    rw [pr_low (.index e i) 1 (Nat.le_refl 1)]
    show pr 1 e ++ _ = _
    rw [h0]; rfl
  | len e ihe =>
    intro hwf
    obtain ⟨t0, ts0, h0, ha⟩ := ihe hwf
    refine ⟨t0, ts0 ++ [tkDot, tkLength], ?_, ha⟩
    rw [pr_low (.len e) 1 (Nat.le_refl 1)]
    show pr 1 e ++ _ = _
    rw [h0]; rfl

/-- coming next, `t` would be taken by a loop that an operand at level `L` has been through (postfix loop if
`2 ≤ L`, `is` if `3 ≤ L`, a binary level below `L`, `??` if `8 ≤ L`), or is `(`, which makes a call of a preceding
identifier -/
def isCont (L : Nat) : Tok → Bool
  | .enum n => n == "BracToken.LPAREN" ||
      (n == "SepToken.DOT" || n == "BracToken.LSQUARE") && decide (2 ≤ L) ||
      n == "OpToken.IS" && decide (3 ≤ L) ||
      n == "OpToken.SPECULATION" && decide (8 ≤ L) ||
      (List.range L).any (fun l => 4 ≤ l && (opMatch (binOps l) n).isSome)
  | _ => false

def headCont (L : Nat) : List Lexeme → Bool
  | [] => false
  | l :: _ => isCont L l.tok

/-- the context lets a plain identifier through `ps_func_call`'s flavour test (all contexts the
grammar can reach do) -/
def CtxOK (ctx : Nat) : Prop := has ctx "FUNC" = false ∨ flavorAllowed ctx .none = true

theorem ctxOK_reachable : ∀ c ∈ reachableCtx, CtxOK c := by
  unfold CtxOK
  decide +kernel

abbrev lexOf (ls : List Lexeme) : List Tok := ls.map (·.tok)

theorem lexOf_singleton {ls : List Lexeme} {t : Tok} (h : lexOf ls = [t]) : ∃ x, ls = [x] ∧ x.tok = t := by
  obtain ⟨x, l, rfl, hx, hl⟩ := List.map_eq_cons_iff.1 h
  rw [List.map_eq_nil_iff.1 hl]
  exact ⟨x, rfl, hx⟩

theorem lexOf_pair {ls : List Lexeme} {t u : Tok} (h : lexOf ls = [t, u]) : ∃ x y, ls = [x, y] ∧ x.tok = t ∧ y.tok = u := by
  obtain ⟨x, l, rfl, hx, hl⟩ := List.map_eq_cons_iff.1 h
  obtain ⟨y, rfl, hy⟩ := lexOf_singleton hl
  exact ⟨x, y, rfl, hx, hy⟩

theorem lexOf_snoc {ls : List Lexeme} {ts : List Tok} {t : Tok} (h : lexOf ls = ts ++ [t]) :
    ∃ l y, ls = l ++ [y] ∧ lexOf l = ts ∧ y.tok = t := by
  obtain ⟨l, ly, rfl, hl, hly⟩ := List.map_eq_append_iff.1 h
  obtain ⟨y, rfl, hy⟩ := lexOf_singleton hly
  exact ⟨l, y, rfl, hl, hy⟩

def Evn {α : Type} (g : Nat → Res α) (r : Res α) : Prop := ∃ n, ∀ f, n ≤ f → g f = r


theorem Evn.shift {α : Type} {g h : Nat → Res α} {r : Res α} (k : Nat) (hs : ∀ f, h (f + k) = g f) (hg : Evn g r) : Evn h r := by
  obtain ⟨n, hn⟩ := hg
  exact ⟨n + k, fun f hf => by
    have := hs (f - k); rw [Nat.sub_add_cancel (by omega)] at this; rw [this]; exact hn _ (by omega)⟩

theorem Evn.and {α β : Type} {g : Nat → Res α} {r : Res α} {g' : Nat → Res β} {r' : Res β} (h : Evn g r) (h' : Evn g' r') :
    ∃ n, ∀ f, n ≤ f → g f = r ∧ g' f = r' := by
  obtain ⟨n, hn⟩ := h; obtain ⟨n', hn'⟩ := h'
  exact ⟨max n n', fun f hf => ⟨hn f (by omega), hn' f (by omega)⟩⟩

theorem Evn.const {α : Type} (a : Res α) : Evn (fun _ => a) a := ⟨0, fun _ _ => rfl⟩

theorem Evn.const_eq {α : Type} {a r : Res α} (h : Evn (fun _ => a) r) : r = a := by
  obtain ⟨n, hn⟩ := h; exact (hn n (Nat.le_refl _)).symm

/-- every step of the round trip: with `k` more units `h` first computes `g`, then goes on as `g'` -/
theorem Evn.step {α β : Type} {g : Nat → Res α} {a : Res α} {g' h : Nat → Res β} {r : Res β} (k : Nat)
    (hg : Evn g a) (hg' : Evn g' r) (hs : ∀ f, g f = a → h (f + k) = g' f) : Evn h r := by
  obtain ⟨n, hn⟩ := hg.and hg'
  exact Evn.shift k (g := fun f => h (f + k)) (fun _ => rfl) ⟨n, fun f hf => (hs f (hn f hf).1).trans (hn f hf).2⟩

/-! ## the regenerated tables (finite, kernel-evaluated) -/
theorem tbl_bin : ∀ L ∈ [4, 5, 6, 7, 8], ∀ p ∈ binOps L,
    opMatch (binOps L) ("OpToken." ++ p.1) = some p.2 ∧ isCont L (tkOp p.1) = false := by decide +kernel
theorem tbl_un_self : ∀ p ∈ unaryOps, opMatch unaryOps ("OpToken." ++ p.1) = some p.2 := by decide +kernel
theorem tbl_un_lparen : opMatch unaryOps "BracToken.LPAREN" = none := by decide +kernel
theorem isCont_close : isCont 9 tkR = false ∧ isCont 9 tkRS = false := by decide +kernel
theorem isCont_is : isCont 2 tkIS = false := by decide +kernel

theorem isCont_false_iff (L : Nat) (n : String) : isCont L (.enum n) = false ↔
    n ≠ "BracToken.LPAREN" ∧ (2 ≤ L → n ≠ "SepToken.DOT" ∧ n ≠ "BracToken.LSQUARE") ∧ (3 ≤ L → n ≠ "OpToken.IS") ∧
    (8 ≤ L → n ≠ "OpToken.SPECULATION") ∧ ∀ l, l < L → 4 ≤ l → opMatch (binOps l) n = none := by
  simp only [isCont, Bool.or_eq_false_iff, Bool.and_eq_false_iff, List.any_eq_false, List.mem_range, decide_eq_false_iff_not,
    beq_eq_false_iff_ne, ne_eq, Bool.and_eq_true, decide_eq_true_eq, not_and, Bool.not_eq_true, Option.isSome_eq_false_iff,
    Option.isNone_iff_eq_none]
  constructor
  · rintro ⟨⟨⟨⟨h1, h2⟩, h3⟩, h4⟩, h5⟩
    refine ⟨h1, fun h => ?_, fun h => ?_, fun h => ?_, h5⟩
    · rcases h2 with h2 | h2
      · exact h2
      · exact absurd h h2
    · rcases h3 with h3 | h3
      · exact h3
      · exact absurd h h3
    · rcases h4 with h4 | h4
      · exact h4
      · exact absurd h h4
  · rintro ⟨h1, h2, h3, h4, h5⟩
    refine ⟨⟨⟨⟨h1, ?_⟩, ?_⟩, ?_⟩, h5⟩
    · by_cases h : 2 ≤ L
      · exact Or.inl (h2 h)
      · exact Or.inr h
    · by_cases h : 3 ≤ L
      · exact Or.inl (h3 h)
      · exact Or.inr h
    · by_cases h : 8 ≤ L
      · exact Or.inl (h4 h)
      · exact Or.inr h

theorem isCont_one {n : String} (h : n ≠ "BracToken.LPAREN") : isCont 1 (.enum n) = false :=
  (isCont_false_iff 1 n).2 ⟨h, fun h => absurd h (by decide), fun h => absurd h (by decide), fun h => absurd h (by decide), fun l hl h4 => by omega⟩

theorem isCont_mono {L L' : Nat} (h : L ≤ L') (t : Tok) (hc : isCont L' t = false) : isCont L t = false := by
  cases t with
  | enum n =>
    rw [isCont_false_iff] at hc ⊢
    obtain ⟨h1, h2, h3, h4, h5⟩ := hc
    exact ⟨h1, fun h' => h2 (by omega), fun h' => h3 (by omega), fun h' => h4 (by omega), fun l hl => h5 l (by omega)⟩
  | _ => rfl

theorem headCont_mono {L L' : Nat} (h : L ≤ L') (rest : List Lexeme) (hc : headCont L' rest = false) : headCont L rest = false := by
  cases rest with
  | nil => rfl
  | cons l r => exact isCont_mono h _ hc


/-! ## parser steps in front of a token that does not continue -/
section steps
variable (c : Cursor)

/-- `hn`: `name` is one of the fixed names `isCont L` tests for -/
theorem opt_exact_stop {L : Nat} {rest : List Lexeme} (hc : headCont L rest = false) (name : String)
    (hn : name = "BracToken.LPAREN" ∨ ((name = "SepToken.DOT" ∨ name = "BracToken.LSQUARE") ∧ 2 ≤ L) ∨
      (name = "OpToken.IS" ∧ 3 ≤ L) ∨ (name = "OpToken.SPECULATION" ∧ 8 ≤ L)) :
    opt (exact (.eof c) name) rest = .val none rest := by
  cases rest with
  | nil => exact opt_exact_nil _ _
  | cons l r =>
    rw [opt_exact_cons]
    have : (l.tok == Tok.enum name) = false := by
      cases ht : l.tok with
      | enum n =>
        simp only [headCont, ht] at hc
        rw [isCont_false_iff] at hc
        obtain ⟨h1, h2, h3, h4, _⟩ := hc
        simp only [beq_eq_false_iff_ne, ne_eq, Tok.enum.injEq]
        rcases hn with rfl | ⟨rfl | rfl, hL⟩ | ⟨rfl, hL⟩ | ⟨rfl, hL⟩
        · exact h1
        · exact (h2 hL).1
        · exact (h2 hL).2
        · exact h3 hL
        · exact h4 hL
      | _ => rfl
    rw [this]; rfl

theorem opt_opTok_stop {L : Nat} {rest : List Lexeme} (hc : headCont L rest = false) (l : Nat) (h4 : 4 ≤ l) (hl : l < L) :
    opt (opTok (.eof c) (binOps l)) rest = .val none rest := by
  cases rest with
  | nil => rfl
  | cons x r =>
    rw [opt_eq, opTok_cons]
    cases ht : x.tok with
    | enum n =>
      simp only [headCont, ht] at hc
      rw [isCont_false_iff] at hc
      dsimp only
      rw [hc.2.2.2.2 l hl h4]
    | _ => rfl

theorem opt_opTok_hit (ops : List (String × String)) (x : Lexeme) (rest : List Lexeme) (t cls : String)
    (hx : x.tok = tkOp t) (hm : opMatch ops ("OpToken." ++ t) = some cls) :
    opt (opTok (.eof c) ops) (x :: rest) = .val (some (cls, x)) rest := by
  rw [opt_eq, opTok_cons, hx, tkOp]
  dsimp only
  rw [hm]

end steps


/-! ## the parser functions on one step -/
section funcs
variable (c : Cursor) (ctx : Nat)

theorem psPostfix_stop {L : Nat} {rest : List Lexeme} (hc : headCont L rest = false) (h2 : 2 ≤ L) (f : Nat) (e : PExpr) :
    psPostfix (.eof c) (f + 1) ctx e rest = .val e rest := by
  rw [psPostfix, bind_eq, opt_exact_stop c hc _ (Or.inr (Or.inl ⟨Or.inl rfl, h2⟩))]
  dsimp only
  rw [bind_eq, opt_exact_stop c hc _ (Or.inr (Or.inl ⟨Or.inr rfl, h2⟩))]
  rfl

theorem psBinRest_stop {L : Nat} {rest : List Lexeme} (hc : headCont L rest = false) (l : Nat) (h4 : 4 ≤ l) (hl : l < L)
    (f : Nat) (e : PExpr) : psBinRest (.eof c) (f + 1) ctx l e rest = .val e rest := by
  rw [psBinRest, bind_eq, opt_opTok_stop c hc l h4 hl]
  rfl

theorem psBinRest_op (l : Nat) (f : Nat) (e : PExpr) (x : Lexeme) (rest : List Lexeme) (t cls : String)
    (hx : x.tok = tkOp t) (hm : opMatch (binOps l) ("OpToken." ++ t) = some cls) {r : PExpr} {rest' : List Lexeme}
    (hr : psBinLevel (.eof c) f ctx (l - 1) rest = .val r rest') :
    psBinRest (.eof c) (f + 1) ctx l e (x :: rest) = psBinRest (.eof c) f ctx l (.bin cls e r) rest' := by
  rw [psBinRest, bind_eq, opt_opTok_hit c _ x rest t cls hx hm]
  dsimp only
  rw [bind_eq, expect_eq, hr]

theorem psBinLevel_succ (L : Nat) (h3 : 3 ≤ L) (f : Nat) (ts : List Lexeme) {e : PExpr} {rest : List Lexeme}
    (h : psBinLevel (.eof c) f ctx L ts = .val e rest) :
    psBinLevel (.eof c) (f + 1) ctx (L + 1) ts = psBinRest (.eof c) f ctx (L + 1) e rest := by
  rw [psBinLevel, if_neg (by omega), bind_eq, Nat.add_sub_cancel, h]

theorem psBinLevel_three (f : Nat) : psBinLevel (.eof c) (f + 1) ctx 3 = psExpr3 (.eof c) f ctx := by
  rw [psBinLevel, if_pos (Nat.le_refl 3)]

theorem psExpr3_stop {L : Nat} (f : Nat) (ts rest : List Lexeme) (e : PExpr)
    (h : psExpr2 (.eof c) f ctx ts = .val e rest) (hc : headCont L rest = false) (h3 : 3 ≤ L) :
    psExpr3 (.eof c) (f + 1) ctx ts = .val e rest := by
  rw [psExpr3, bind_eq, h]
  dsimp only
  rw [bind_eq, opt_exact_stop c hc _ (Or.inr (Or.inr (Or.inl ⟨rfl, h3⟩)))]
  rfl

theorem psExpr2_un (f : Nat) (x : Lexeme) (rest : List Lexeme) (t cls : String)
    (hx : x.tok = tkOp t) (hm : opMatch unaryOps ("OpToken." ++ t) = some cls) {e : PExpr} {r : List Lexeme}
    (he : psExpr2 (.eof c) f ctx rest = .val e r) :
    psExpr2 (.eof c) (f + 1) ctx (x :: rest) = .val (.un cls e) r := by
  rw [psExpr2, bind_eq, opt_opTok_hit c _ x rest t cls hx hm]
  dsimp only
  rw [bind_eq, expect_eq, he]
  rfl

theorem psExpr2_atom (f : Nat) (x : Lexeme) (rest : List Lexeme) (hx : atomStart x.tok = true) :
    psExpr2 (.eof c) (f + 1) ctx (x :: rest) = psExpr1 (.eof c) f ctx (x :: rest) := by
  have : opt (opTok (.eof c) unaryOps) (x :: rest) = .val none (x :: rest) := by
    rw [opt_eq, opTok_cons]
    cases ht : x.tok with
    | enum n =>
      simp only [ht, atomStart, beq_iff_eq] at hx
      dsimp only
      rw [hx, tbl_un_lparen]
    | _ => rfl
  rw [psExpr2, bind_eq, this]

theorem psExpr1_val (f : Nat) (ts : List Lexeme) {e : PExpr} {rest : List Lexeme}
    (h : psExpr0 (.eof c) f ctx ts = .val e rest) :
    psExpr1 (.eof c) (f + 1) ctx ts = psPostfix (.eof c) f ctx e rest := by
  rw [psExpr1, bind_eq, h]

theorem psExpr1_of {L : Nat} (f : Nat) (ts rest : List Lexeme) (e : PExpr)
    (h : psExpr0 (.eof c) (f + 1) ctx ts = .val e rest) (hc : headCont L rest = false) (h2 : 2 ≤ L) :
    psExpr1 (.eof c) (f + 2) ctx ts = .val e rest :=
  (psExpr1_val c ctx (f + 1) ts h).trans (psPostfix_stop c ctx hc h2 f e)

theorem psExpr_stop (f : Nat) (ts rest : List Lexeme) (e : PExpr)
    (h : psBinLevel (.eof c) f ctx 8 ts = .val e rest)
    (hs : opt (exact (.eof c) "OpToken.SPECULATION") rest = .val none rest) :
    psExpr (.eof c) (f + 1) ctx ts = .val e rest := by
  rw [psExpr]
  simp only [h, hs]

theorem psExpr0_lit (f : Nat) (x : Lexeme) (rest : List Lexeme) (v : Nat) (hx : x.tok = .int v) :
    psExpr0 (.eof c) (f + 1) ctx (x :: rest) = .val (.int v) rest := by
  have hne : ∀ s, (Tok.int v == Tok.enum s) = false := fun _ => rfl
  simp only [psExpr0_eq, alt_eq, exact_cons, tokenIf_cons, hx, hne, Bool.false_eq_true, if_false]
  rfl

theorem psExpr0_paren (f : Nat) (x y : Lexeme) (inner rest : List Lexeme) (e : PExpr)
    (hx : x.tok = tkL) (hy : y.tok = tkR) (h : psExpr (.eof c) f ctx inner = .val e (y :: rest)) :
    psExpr0 (.eof c) (f + 1) ctx (x :: inner) = .val e rest := by
  simp only [psExpr0_eq, alt_eq, exact_cons, hx, tkL, beq_self_eq_true, if_true, bind_eq, expect_eq, h, hy, tkR]
  rfl

theorem psFuncCall_ident {L : Nat} (hctx : CtxOK ctx) (f : Nat) (x : Lexeme) (rest : List Lexeme) (n : List CP)
    (hx : x.tok = .ident n .none) (hc : headCont L rest = false) :
    psFuncCall (.eof c) (f + 1) ctx (x :: rest) = .fail := by
  rw [psFuncCall]
  cases hf : has ctx "FUNC" with
  | false => rfl
  | true =>
    have hfl : flavorAllowed ctx .none = true := hctx.resolve_left (by rw [hf]; nofun)
    simp only [Bool.not_true, Bool.false_eq_true, if_false, bind_eq, psIdent_cons c _ x rest n .none hx, hfl, if_true,
      opt_none (opt_exact_stop c hc "BracToken.LPAREN" (Or.inl rfl))]

theorem psExpr0_var {L : Nat} (hctx : CtxOK ctx) (f : Nat) (x : Lexeme) (rest : List Lexeme) (n : List CP)
    (hx : x.tok = .ident n .none) (hc : headCont L rest = false) :
    psExpr0 (.eof c) (f + 2) ctx (x :: rest) = .val (.var n) rest := by
  have hne : ∀ s, (Tok.ident n .none == Tok.enum s) = false := fun _ => rfl
  simp only [psExpr0_eq, alt_eq, exact_cons, tokenIf_cons, hx, hne, Bool.false_eq_true, if_false,
    psFuncCall_ident c ctx hctx f x rest n hx hc, bind_eq, psIdent_cons c _ x rest n .none hx]
  rfl

theorem psPostfix_dot (f : Nat) (e : PExpr) (x y : Lexeme) (rest : List Lexeme) (hx : x.tok = tkDot) (hy : y.tok = tkLength) :
    psPostfix (.eof c) (f + 1) ctx e (x :: y :: rest) = psPostfix (.eof c) f ctx (.len e) rest := by
  rw [psPostfix]
  simp only [bind_eq, opt_exact_cons, hx, tkDot, beq_self_eq_true, if_true, expect_eq, tokenIf_cons, hy, tkLength]

theorem psPostfix_index (f : Nat) (e i : PExpr) (x y : Lexeme) (inner rest : List Lexeme) (hx : x.tok = tkLS) (hy : y.tok = tkRS)
    (h : psExpr (.eof c) f ctx inner = .val i (y :: rest)) :
    psPostfix (.eof c) (f + 1) ctx e (x :: inner) = psPostfix (.eof c) f ctx (.index e i) rest := by
  have hd : (Tok.enum "BracToken.LSQUARE" == Tok.enum "SepToken.DOT") = false := by decide
  rw [psPostfix]
  simp only [bind_eq, opt_exact_cons, hx, tkLS, hd, Bool.false_eq_true, if_false, beq_self_eq_true, if_true, expect_eq, h,
    exact_cons, hy, tkRS]

theorem psExpr3_cast {L : Nat} (f : Nat) (ts rest : List Lexeme) (e : PExpr) (x y : Lexeme) (tn : String) (ty : Ty)
    (h : psExpr2 (.eof c) f ctx ts = .val e (x :: y :: rest)) (hx : x.tok = tkIS) (hy : y.tok = .enum tn)
    (hty : tyOfName tn = some ty) (hne : ty ≠ .empty) (hc : headCont L rest = false) (h2 : 2 ≤ L) :
    psExpr3 (.eof c) (f + 1) ctx ts = .val (.is_ e ty) rest := by
  rw [psExpr3]
  have hls : opt (exact (.eof c) "BracToken.LSQUARE") rest = .val none rest :=
    opt_exact_stop c hc _ (Or.inr (Or.inl ⟨Or.inr rfl, h2⟩))
  have hne' : (ty == Ty.empty) = false := by cases ty <;> first | rfl | exact absurd rfl hne
  simp only [bind, P.bind, h, opt_exact_cons, hx, tkIS, beq_self_eq_true, if_true, psDataTypeOpt, dataTypeTok, tokenIf_cons, hy,
    hty, Option.map_some, hne', Bool.false_eq_true, if_false, hls]
  rfl

end funcs


/-! ## the round trip -/
section main
variable (c : Cursor) (ctx : Nat)

/-- what remains to be done at level `L` once the operand `x` has been parsed -/
def kont (f L : Nat) (x : PExpr) (rest : List Lexeme) : Res PExpr :=
  if L ≤ 3 then .val x rest else psBinRest (.eof c) f ctx L x rest

theorem kont_stop {L : Nat} {rest : List Lexeme} (hc : headCont (L + 1) rest = false) (x : PExpr) :
    Evn (fun f => kont c ctx f L x rest) (.val x rest) := by
  unfold kont
  by_cases h3 : L ≤ 3
  · simp only [h3, if_true]; exact Evn.const _
  · simp only [h3, if_false]
    exact Evn.shift 1 (fun f => psBinRest_stop c ctx hc L (by omega) (by omega) f x) (.const _)

/-- from level `L0` up to level `L0 + d` -/
theorem lift {L0 : Nat} (h3 : 3 ≤ L0) (ts rest : List Lexeme) (x : PExpr)
    (h0 : ∀ r, Evn (fun f => kont c ctx f L0 x rest) r → Evn (fun f => psBinLevel (.eof c) f ctx L0 ts) r) :
    ∀ (d : Nat), headCont (L0 + d) rest = false →
      ∀ r, Evn (fun f => kont c ctx f (L0 + d) x rest) r → Evn (fun f => psBinLevel (.eof c) f ctx (L0 + d) ts) r := by
  intro d
  induction d with
  | zero => intro _ r hr; exact h0 r hr
  | succ d ih =>
    intro hc r hr
    have hlow := ih (headCont_mono (by omega) rest hc) (.val x rest) (kont_stop c ctx (by rw [Nat.add_assoc]; exact hc) x)
    refine Evn.step 1 hlow hr fun f hf => ?_
    show psBinLevel (.eof c) (f + 1) ctx (L0 + d + 1) ts = kont c ctx f (L0 + d + 1) x rest
    rw [psBinLevel_succ c ctx (L0 + d) (by omega) f ts hf, kont, if_neg (by omega)]

theorem evn_psExpr {ts rest : List Lexeme} {e : PExpr} (h : Evn (fun f => psBinLevel (.eof c) f ctx 8 ts) (.val e rest))
    (hc : headCont 9 rest = false) : Evn (fun f => psExpr (.eof c) f ctx ts) (.val e rest) :=
  Evn.step 1 h (.const _) fun f hf =>
    psExpr_stop c ctx f ts rest e hf (opt_exact_stop c hc _ (Or.inr (Or.inr (Or.inr ⟨rfl, by decide⟩))))

theorem evn_whole {e : OE}
    (hB : ∀ ls rest r, lexOf ls = body e → headCont 8 rest = false →
      Evn (fun f => kont c ctx f 8 e.toP rest) r → Evn (fun f => psBinLevel (.eof c) f ctx 8 (ls ++ rest)) r)
    {ls rest : List Lexeme} (hls : lexOf ls = body e) (hc : headCont 9 rest = false) :
    Evn (fun f => psExpr (.eof c) f ctx (ls ++ rest)) (.val e.toP rest) :=
  evn_psExpr c ctx (hB ls rest _ hls (headCont_mono (by decide) rest hc) (kont_stop c ctx hc _)) hc

theorem lift3 (ts rest : List Lexeme) (x : PExpr) (L : Nat) (h3 : 3 ≤ L) (hc : headCont L rest = false)
    (h : Evn (fun f => psExpr3 (.eof c) f ctx ts) (.val x rest)) :
    ∀ r, Evn (fun f => kont c ctx f L x rest) r → Evn (fun f => psBinLevel (.eof c) f ctx L ts) r := by
  have base : ∀ r, Evn (fun f => kont c ctx f 3 x rest) r → Evn (fun f => psBinLevel (.eof c) f ctx 3 ts) r := by
    intro r hr
    have hr' : r = .val x rest := by unfold kont at hr; simp only [Nat.le_refl, if_true] at hr; exact hr.const_eq
    subst hr'
    refine Evn.step 1 h (.const _) fun f hf => ?_
    show psBinLevel (.eof c) (f + 1) ctx 3 ts = _
    rw [psBinLevel_three c ctx]
    exact hf
  have := lift c ctx (L0 := 3) (Nat.le_refl _) ts rest x base (L - 3)
  rw [show 3 + (L - 3) = L by omega] at this
  exact this hc

theorem lift2 (ts rest : List Lexeme) (x : PExpr) (L : Nat) (h3 : 3 ≤ L) (hc : headCont L rest = false)
    (h : Evn (fun f => psExpr2 (.eof c) f ctx ts) (.val x rest)) :
    ∀ r, Evn (fun f => kont c ctx f L x rest) r → Evn (fun f => psBinLevel (.eof c) f ctx L ts) r :=
  lift3 c ctx ts rest x L h3 hc
    (Evn.step 1 h (.const _) fun f hf => psExpr3_stop c ctx f ts rest x hf (headCont_mono h3 rest hc) (Nat.le_refl _))

theorem headCont_cons (L : Nat) (x : Lexeme) (rest : List Lexeme) : headCont L (x :: rest) = isCont L x.tok := rfl

theorem atom_post (ts rest : List Lexeme) (x : PExpr) (h : Evn (fun f => psExpr0 (.eof c) f ctx ts) (.val x rest)) :
    ∀ r, Evn (fun f => psPostfix (.eof c) f ctx x rest) r → Evn (fun f => psExpr1 (.eof c) f ctx ts) r := fun _ hr =>
  Evn.step 1 h hr fun f hf => psExpr1_val c ctx f ts hf

theorem paren_post (e : OE)
    (hB : ∀ ls rest r, lexOf ls = body e → headCont 8 rest = false →
      Evn (fun f => kont c ctx f 8 e.toP rest) r → Evn (fun f => psBinLevel (.eof c) f ctx 8 (ls ++ rest)) r)
    (ls rest : List Lexeme) (hls : lexOf ls = tkL :: (body e ++ [tkR])) :
    ∀ r, Evn (fun f => psPostfix (.eof c) f ctx e.toP rest) r → Evn (fun f => psExpr1 (.eof c) f ctx (ls ++ rest)) r := by
  obtain ⟨x, ls', rfl, hx, hls'⟩ := List.map_eq_cons_iff.1 hls
  obtain ⟨lb, y, rfl, hlb, hy⟩ := lexOf_snoc hls'
  have hc9 : headCont 9 (y :: rest) = false := by rw [headCont_cons, hy]; exact isCont_close.1
  have := atom_post c ctx (x :: (lb ++ y :: rest)) rest e.toP
    (Evn.step 1 (evn_whole c ctx hB hlb hc9) (.const _) fun f hf => psExpr0_paren c ctx f x y _ rest e.toP hx hy hf)
  simpa [List.append_assoc] using this

theorem bin_level (Lb : Nat) (t cls : String) (l r : OE) (h4 : 4 ≤ Lb) (h8 : Lb ≤ 8) (hmem : (t, cls) ∈ binOps Lb)
    (hBl : ∀ ls rest r', lexOf ls = pr Lb l → headCont Lb rest = false →
      Evn (fun f => kont c ctx f Lb l.toP rest) r' → Evn (fun f => psBinLevel (.eof c) f ctx Lb (ls ++ rest)) r')
    (hBr : ∀ ls rest r', lexOf ls = pr (Lb - 1) r → headCont (Lb - 1) rest = false →
      Evn (fun f => kont c ctx f (Lb - 1) r.toP rest) r' → Evn (fun f => psBinLevel (.eof c) f ctx (Lb - 1) (ls ++ rest)) r')
    (ls rest : List Lexeme) (res : Res PExpr) (hls : lexOf ls = pr Lb l ++ tkOp t :: pr (Lb - 1) r)
    (hc : headCont Lb rest = false)
    (hk : Evn (fun f => kont c ctx f Lb (.bin cls l.toP r.toP) rest) res) :
    Evn (fun f => psBinLevel (.eof c) f ctx Lb (ls ++ rest)) res := by
  obtain ⟨ll, lxr, rfl, hll, hlxr⟩ := List.map_eq_append_iff.1 hls
  obtain ⟨x, lr, rfl, hx, hlr⟩ := List.map_eq_cons_iff.1 hlxr
  obtain ⟨hself, hnc⟩ := tbl_bin Lb (mem_levels h4 h8) (t, cls) hmem
  have hr := hBr lr rest (.val r.toP rest) hlr (headCont_mono (by omega) rest hc)
    (kont_stop c ctx (by rw [Nat.sub_add_cancel (by omega)]; exact hc) _)
  have hkl : Evn (fun f => kont c ctx f Lb l.toP (x :: (lr ++ rest))) res :=
    Evn.step 1 hr hk fun f hf => by
      show kont c ctx (f + 1) Lb l.toP (x :: (lr ++ rest)) = kont c ctx f Lb (.bin cls l.toP r.toP) rest
      rw [kont, if_neg (by omega), kont, if_neg (by omega)]
      exact psBinRest_op c ctx Lb f _ x _ t cls hx hself hf
  have := hBl ll (x :: (lr ++ rest)) res hll (by rw [headCont_cons, hx]; exact hnc) hkl
  simpa [List.append_assoc] using this

/-! The induction on `e` proves one statement for each kind of position `e` can be printed in: `StP` as a postfix
operand (level 1), `StA` as the operand of a prefix operator (level 2), `StB` at a binary level (3 to 8). -/
def StP (e : OE) : Prop :=
  ∀ ls rest r, lexOf ls = pr 1 e → headCont 1 rest = false →
    Evn (fun f => psPostfix (.eof c) f ctx e.toP rest) r → Evn (fun f => psExpr1 (.eof c) f ctx (ls ++ rest)) r

def StA (e : OE) : Prop :=
  ∀ ls rest, lexOf ls = pr 2 e → headCont 2 rest = false →
    Evn (fun f => psExpr2 (.eof c) f ctx (ls ++ rest)) (.val e.toP rest)

def StB (e : OE) : Prop :=
  ∀ L, 3 ≤ L → L ≤ 8 → ∀ ls rest r, lexOf ls = pr L e → headCont L rest = false →
    Evn (fun f => kont c ctx f L e.toP rest) r → Evn (fun f => psBinLevel (.eof c) f ctx L (ls ++ rest)) r

theorem stB_body {e : OE} (hB : StB c ctx e) (hp8 : e.prec ≤ 8) (ls rest : List Lexeme) (r : Res PExpr)
    (hls : lexOf ls = body e) (hc : headCont 8 rest = false) (hk : Evn (fun f => kont c ctx f 8 e.toP rest) r) :
    Evn (fun f => psBinLevel (.eof c) f ctx 8 (ls ++ rest)) r :=
  hB 8 (by decide) (Nat.le_refl _) ls rest r (hls.trans (pr_low e 8 hp8).symm) hc hk

/-- whatever is printed the same at levels 1 and 2 (everything but a prefix operator application) -/
theorem stA_of_P (e : OE) (hwf : e.WF) (h12 : pr 2 e = pr 1 e) (hP : StP c ctx e) : StA c ctx e := by
  intro ls rest hls hc
  rw [h12] at hls
  obtain ⟨t0, ts0, h0, ha⟩ := pr1_start e hwf
  obtain ⟨x, ls', rfl, hx, _⟩ := List.map_eq_cons_iff.1 (hls.trans h0)
  have h1 := hP (x :: ls') rest (.val e.toP rest) hls (headCont_mono (by decide) rest hc)
    (Evn.shift 1 (fun f => psPostfix_stop c ctx hc (Nat.le_refl _) f _) (.const _))
  exact Evn.step 1 h1 (.const _) fun f hf => (psExpr2_atom c ctx f x _ (by rw [hx]; exact ha)).trans hf

theorem stB_of_low (e : OE) (hp : e.prec ≤ 2) (hA : StA c ctx e) : StB c ctx e := by
  intro L h3 _ ls rest r hls hc hk
  rw [pr_low e L (by omega)] at hls
  exact lift2 c ctx (ls ++ rest) rest e.toP L h3 hc
    (hA ls rest (by rw [pr_low e 2 hp]; exact hls) (headCont_mono (by omega) rest hc)) r hk

theorem stP_of_B (e : OE) (hp : 1 < e.prec) (hp8 : e.prec ≤ 8) (hB : StB c ctx e) : StP c ctx e := by
  intro ls rest r hls _ hr
  rw [pr_high e 1 hp] at hls
  exact paren_post c ctx e (stB_body c ctx hB hp8) ls rest hls r hr

theorem st_of_P (e : OE) (hwf : e.WF) (hp : e.prec ≤ 1)
    (h : ∀ ls rest r, lexOf ls = body e → headCont 1 rest = false →
      Evn (fun f => psPostfix (.eof c) f ctx e.toP rest) r → Evn (fun f => psExpr1 (.eof c) f ctx (ls ++ rest)) r) :
    StP c ctx e ∧ StA c ctx e ∧ StB c ctx e :=
  have hP : StP c ctx e := fun ls rest r hls => h ls rest r (hls.trans (pr_low e 1 hp))
  have hA := stA_of_P c ctx e hwf (by rw [pr_low e 2 (by omega), pr_low e 1 hp]) hP
  ⟨hP, hA, stB_of_low c ctx e (by omega) hA⟩

theorem round_trip (hctx : CtxOK ctx) : ∀ (e : OE), e.WF → StP c ctx e ∧ StA c ctx e ∧ StB c ctx e := by
  intro e
  induction e with
  | lit v =>
    intro hwf
    refine st_of_P c ctx _ hwf (by decide : 0 ≤ 1) fun ls rest r hls _ hr => ?_
    obtain ⟨x, rfl, hx⟩ := lexOf_singleton hls
    exact atom_post c ctx _ rest _ (Evn.shift 1 (fun f => psExpr0_lit c ctx f x rest v hx) (.const _)) r hr
  | var n =>
    intro hwf
    refine st_of_P c ctx _ hwf (by decide : 0 ≤ 1) fun ls rest r hls hc hr => ?_
    obtain ⟨x, rfl, hx⟩ := lexOf_singleton hls
    exact atom_post c ctx _ rest _ (Evn.shift 2 (fun f => psExpr0_var c ctx hctx f x rest n hx hc) (.const _)) r hr
  | un t cls e1 ih =>
    intro hwf
    obtain ⟨hmem, hwf1⟩ := hwf
    obtain ⟨_, hA1, _⟩ := ih hwf1
    have hA : StA c ctx (.un t cls e1) := by
      intro ls rest hls hc
      rw [pr_low (.un t cls e1) 2 (Nat.le_refl 2)] at hls
      obtain ⟨x, ls1, rfl, hx, hls1⟩ := List.map_eq_cons_iff.1 hls
      exact Evn.step 1 (hA1 ls1 rest hls1 hc) (.const _) fun f hf =>
        psExpr2_un c ctx f x _ t cls hx (tbl_un_self (t, cls) hmem) hf
    have hB := stB_of_low c ctx (.un t cls e1) (Nat.le_refl 2) hA
    exact ⟨stP_of_B c ctx (.un t cls e1) (by decide : 1 < 2) (by decide : 2 ≤ 8) hB, hA, hB⟩
  | paren e1 ih =>
    intro hwf
    obtain ⟨_, _, hB1⟩ := ih hwf.1
    refine st_of_P c ctx _ hwf (by decide : 0 ≤ 1) fun ls rest r hls _ hr => ?_
    exact paren_post c ctx e1 (stB_body c ctx hB1 hwf.2) ls rest hls r hr
  | bin Lb t cls l r ihl ihr =>
    intro hwf
    obtain ⟨h4, h8, hmem, hwl, hwr⟩ := hwf
    obtain ⟨_, _, hBl⟩ := ihl hwl
    obtain ⟨_, _, hBr⟩ := ihr hwr
    have up : ∀ L, Lb ≤ L → L ≤ 8 → ∀ ls rest res, lexOf ls = body (.bin Lb t cls l r) → headCont L rest = false →
        Evn (fun f => kont c ctx f L (OE.bin Lb t cls l r).toP rest) res →
        Evn (fun f => psBinLevel (.eof c) f ctx L (ls ++ rest)) res := by
      intro L hL _ ls rest res hls hc hk
      have := lift c ctx (L0 := Lb) (by omega) (ls ++ rest) rest _
        (fun r' hr' => bin_level c ctx Lb t cls l r h4 h8 hmem (hBl Lb (by omega) h8) (hBr (Lb - 1) (by omega) (by omega))
          ls rest r' hls (headCont_mono hL rest hc) hr') (L - Lb)
      rw [show Lb + (L - Lb) = L by omega] at this
      exact this hc res hk
    have hP : StP c ctx (.bin Lb t cls l r) := by
      intro ls rest res hls _ hr
      rw [pr_high (.bin Lb t cls l r) 1 (show 1 < Lb by omega)] at hls
      exact paren_post c ctx _ (fun ls' rest' r' h1 h2 h3 => up 8 h8 (Nat.le_refl _) ls' rest' r' h1 h2 h3) ls rest hls res hr
    have hA := stA_of_P c ctx (.bin Lb t cls l r) ⟨h4, h8, hmem, hwl, hwr⟩
      (by rw [pr_high (.bin Lb t cls l r) 2 (show 2 < Lb by omega), pr_high (.bin Lb t cls l r) 1 (show 1 < Lb by omega)]) hP
    refine ⟨hP, hA, ?_⟩
    intro L h3 hL8 ls rest res hls hc hk
    by_cases hL : Lb ≤ L
    · rw [pr_low (.bin Lb t cls l r) L hL] at hls
      exact up L hL hL8 ls rest res hls hc hk
    · have hp2 : pr L (.bin Lb t cls l r) = pr 2 (.bin Lb t cls l r) := by
        rw [pr_high (.bin Lb t cls l r) L (show L < Lb by omega), pr_high (.bin Lb t cls l r) 2 (show 2 < Lb by omega)]
      exact lift2 c ctx (ls ++ rest) rest _ L h3 hc
        (hA ls rest (by rw [← hp2]; exact hls) (headCont_mono (by omega) rest hc)) res hk
  | cast e1 tn ty ih =>
    intro hwf
    obtain ⟨hty, hne, hwf1⟩ := hwf
    obtain ⟨_, hA1, _⟩ := ih hwf1
    have hB : StB c ctx (.cast e1 tn ty) := by
      intro L h3 _ ls rest res hls hc hk
      rw [pr_low (.cast e1 tn ty) L h3] at hls
      obtain ⟨l1, lxy, rfl, hl1, hlxy⟩ := List.map_eq_append_iff.1 hls
      obtain ⟨x, y, rfl, hx, hy⟩ := lexOf_pair hlxy
      have h2 := hA1 l1 (x :: y :: rest) hl1 (by rw [headCont_cons, hx]; exact isCont_is)
      have := lift3 c ctx (l1 ++ x :: y :: rest) rest (.is_ e1.toP ty) L h3 hc
        (Evn.step 1 h2 (.const _) fun f hf => psExpr3_cast c ctx f _ rest e1.toP x y tn ty hf hx hy hty hne hc (by omega)) res hk
      simpa [List.append_assoc] using this
    have hP := stP_of_B c ctx (.cast e1 tn ty) (by decide : 1 < 3) (by decide : 3 ≤ 8) hB
    have hA := stA_of_P c ctx (.cast e1 tn ty) ⟨hty, hne, hwf1⟩
      (by rw [pr_high (.cast e1 tn ty) 2 (by decide : 2 < 3), pr_high (.cast e1 tn ty) 1 (by decide : 1 < 3)]) hP
    exact ⟨hP, hA, hB⟩
  | index e1 i ihe ihi =>
    intro hwf
    obtain ⟨hP1, _, _⟩ := ihe hwf.1
    obtain ⟨_, _, hBi⟩ := ihi hwf.2.1
    refine st_of_P c ctx _ hwf (by decide : 1 ≤ 1) fun ls rest r hls _ hr => ?_
    obtain ⟨l1, lxi, rfl, hl1, hlxi⟩ := List.map_eq_append_iff.1 hls
    obtain ⟨x, liy, rfl, hx, hliy⟩ := List.map_eq_cons_iff.1 hlxi
    obtain ⟨li, y, rfl, hli, hy⟩ := lexOf_snoc hliy
    have hc9 : headCont 9 (y :: rest) = false := by rw [headCont_cons, hy]; exact isCont_close.2
    have hi := evn_whole c ctx (stB_body c ctx hBi hwf.2.2) hli hc9
    have hk : Evn (fun f => psPostfix (.eof c) f ctx e1.toP (x :: (li ++ y :: rest))) r :=
      Evn.step 1 hi hr fun f hf => psPostfix_index c ctx f e1.toP i.toP x y _ rest hx hy hf
    have := hP1 l1 (x :: (li ++ y :: rest)) r hl1 (by rw [headCont_cons, hx]; exact isCont_one (by simp)) hk
    simpa [List.append_assoc] using this
  | len e1 ihe =>
    intro hwf
    obtain ⟨hP1, _, _⟩ := ihe hwf
    refine st_of_P c ctx _ hwf (by decide : 1 ≤ 1) fun ls rest r hls _ hr => ?_
    obtain ⟨l1, lxy, rfl, hl1, hlxy⟩ := List.map_eq_append_iff.1 hls
    obtain ⟨x, y, rfl, hx, hy⟩ := lexOf_pair hlxy
    have := hP1 l1 (x :: y :: rest) r hl1 (by rw [headCont_cons, hx]; exact isCont_one (by simp))
      (Evn.shift 1 (fun f => psPostfix_dot c ctx f e1.toP x y rest hx hy) hr)
    simpa [List.append_assoc] using this

/-- **The documented table is what the parser implements**: for every operator expression `e`, any tokens `ls`
spelling `e` with the minimal parentheses of the documented precedence and left-associativity, and any
continuation `rest` that cannot extend an expression, `ps_expr` returns exactly the tree of `e` and leaves `rest` —
for all sufficiently large fuel. -/
theorem parse_pr (hctx : CtxOK ctx) (e : OE) (hwf : e.WF) (ls rest : List Lexeme)
    (hls : lexOf ls = pr 8 e) (hc : headCont 9 rest = false) :
    Evn (fun f => psExpr (.eof c) f ctx (ls ++ rest)) (.val e.toP rest) := by
  obtain ⟨_, _, hB⟩ := round_trip c ctx hctx e hwf
  exact evn_whole c ctx (stB_body c ctx hB (prec_le_8 e hwf)) (hls.trans (pr_low e 8 (prec_le_8 e hwf))) hc

end main

end HidVerif.Hid.Parse
