import HidVerif.Proofs.LexPieces
/-!
# Lexing is independent of layout, and spans are exact (C12 v, vi) — for the lexer model

A line is laid out as `sep₁ t₁ sep₂ t₂ … sepₙ tₙ trail` with white-space separators (possibly empty: a text
has to read as its token in front of what actually follows it, `ReadsAs`) and a trailing part that is white
space optionally followed by a `//` comment.  `lex_layout`: whatever the separators and the trailing part,
`lex` returns exactly the tokens of the pieces, in order, each with the span that covers exactly its text.
-/
namespace HidVerif.Hid.Lex
open HidVerif.Gen

theorem foldl_total (src : List Line) : ∀ init, src.foldl (fun a l => a + l.length + 1) init = init + (src.map (fun l => l.length + 1)).sum := by
  induction src with
  | nil => intro init; simp
  | cons l src ih => intro init; simp only [List.foldl_cons, ih, List.map_cons, List.sum_cons]; omega

def allSpace (s : Line) : Prop := ∀ c ∈ s, isSpace c = true

instance (s : Line) : Decidable (allSpace s) := by unfold allSpace; infer_instance

/-- white space, optionally followed by a comment to the end of the line -/
def Trail (s : Line) : Prop := allSpace s ∨ ∃ sp r, s = sp ++ 47 :: 47 :: r ∧ allSpace sp

theorem matchIgnore_sep (sp t rest : Line) (tok : Tok) (hs : allSpace sp) (ht : ReadsAs t tok rest) :
    matchIgnore (sp ++ (t ++ rest)) = sp.length := by
  obtain ⟨c, r, rfl⟩ := List.exists_cons_of_ne_nil ht.nonempty
  unfold matchIgnore
  have htw : (sp ++ (c :: r ++ rest)).takeWhile isSpace = sp :=
    takeWhile_append_stop sp _ hs (fun a ha => by cases ha; exact ht.noSpace c r rfl)
  simp only [htw, List.drop_left]
  split
  · rename_i x h1
    exact absurd h1 (ht.noComment x)
  · rfl

theorem matchIgnore_trail (s : Line) (h : Trail s) : matchIgnore s = s.length := by
  unfold matchIgnore
  rcases h with h | ⟨sp, r, rfl, hsp⟩
  · have : s.takeWhile isSpace = s := by simpa using takeWhile_append_stop s [] h (fun _ h => nomatch h)
    simp only [this, List.drop_length]
  · have htw : (sp ++ 47 :: 47 :: r).takeWhile isSpace = sp :=
      takeWhile_append_stop sp _ hsp (fun a ha => by cases ha; decide)
    simp only [htw, List.drop_left]

/-- a token text with the separator in front of it and the token it denotes -/
abbrev Piece := Line × Line × Tok

def renderLine : List Piece → Line → Line
  | [], trail => trail
  | (sep, t, _) :: ps, trail => sep ++ (t ++ renderLine ps trail)

/-- separators may be empty: every text reads as its token in front of the actual rest of the line -/
def WFLine : List Piece → Line → Prop
  | [], trail => Trail trail
  | (sep, t, tok) :: ps, trail =>
    allSpace sep ∧ ReadsAs t tok (renderLine ps trail) ∧ WFLine ps trail

/-- the lexemes of the pieces of a line, the first separator starting at column `col` -/
def lexemesAt (line : Nat) : Nat → List Piece → List Lexeme
  | _, [] => []
  | col, (sep, t, tok) :: ps =>
    ⟨tok, ⟨line, col + sep.length⟩, ⟨line, col + sep.length + t.length⟩⟩ :: lexemesAt line (col + sep.length + t.length) ps

def lexemesFrom : Nat → List (List Piece × Line) → List Lexeme
  | _, [] => []
  | i, (ps, _) :: rest => lexemesAt i 0 ps ++ lexemesFrom (i + 1) rest

def render (l : List Piece × Line) : Line := renderLine l.1 l.2

/-- the cursor `lex` reports at the end: the end of the last token -/
def lastOf (init : Cursor) (ls : List Lexeme) : Cursor := (ls.getLast?.map (·.stop)).getD init

theorem renderLine_length_pos (p : Piece) (ps : List Piece) (trail : Line) (h : WFLine (p :: ps) trail) :
    p.1.length < (renderLine (p :: ps) trail).length := by
  obtain ⟨sep, t, tok⟩ := p
  obtain ⟨_, hd, _⟩ := h
  have : 0 < t.length := List.length_pos_iff.2 hd.nonempty
  simp only [renderLine, List.length_append]
  omega

theorem drop_piece {L sep t rest : Line} {col : Nat} (h : L.drop col = sep ++ (t ++ rest)) :
    L.drop (col + sep.length + t.length) = rest := by
  rw [Nat.add_assoc, ← List.drop_drop, h, ← List.append_assoc, ← List.length_append, List.drop_left]

theorem lastOf_cons (init : Cursor) (x : Lexeme) (xs : List Lexeme) : lastOf init (x :: xs) = lastOf x.stop xs := by
  unfold lastOf
  cases xs with
  | nil => rfl
  | cons y ys =>
    rw [List.getLast?_cons_cons]
    cases h : (y :: ys).getLast? with
    | none => simp at h
    | some z => rfl

theorem lineAt_mid (pre rem : List (List Piece × Line)) (cur : List Piece × Line) :
    lineAt ((pre ++ cur :: rem).map render) pre.length = render cur := by
  unfold lineAt
  simp [List.getD]

def countPieces : List (List Piece × Line) → Nat
  | [] => 0
  | (ps, _) :: rest => ps.length + countPieces rest

theorem skipWs_fuel (src : List Line) : ∀ (k line col f f' : Nat), src.length - line ≤ k → k < f → k < f' →
    skipWs src f line col = skipWs src f' line col := by
  intro k line col f
  induction f generalizing k line col with
  | zero => intro _ _ hf; exact absurd hf (Nat.not_lt_zero _)
  | succ g ih =>
    intro f' hk hf hf'
    cases f' with
    | zero => exact absurd hf' (Nat.not_lt_zero _)
    | succ g' =>
      simp only [skipWs]
      split
      · split
        · exact ih (k - 1) (line + 1) 0 g' (by omega) (by omega) (by omega)
        · rfl
      · rfl

theorem skipWs_piece (src : List Line) (i col f : Nat) (sep t rest : Line) (tok : Tok)
    (hl : (lineAt src i).drop col = sep ++ (t ++ rest)) (hs : allSpace sep) (ht : ReadsAs t tok rest) :
    skipWs src (f + 1) i col = some (i, col + sep.length) := by
  simp only [skipWs]
  rw [hl, matchIgnore_sep sep t rest tok hs ht]
  have hlen := congrArg List.length hl
  have htpos : 0 < t.length := List.length_pos_iff.2 ht.nonempty
  simp only [List.length_drop, List.length_append] at hlen
  rw [if_neg (by omega)]

theorem skipWs_trail (src : List Line) (i col f : Nat) (ht : Trail ((lineAt src i).drop col)) :
    skipWs src (f + 1) i col = if i + 1 < src.length then skipWs src f (i + 1) 0 else none := by
  simp only [skipWs]
  rw [matchIgnore_trail _ ht, if_pos (by simp only [List.length_drop]; omega)]

theorem go_piece (src : List Line) (f i col : Nat) (last : Cursor) (acc : List Lexeme) (sep t rest : Line) (tok : Tok)
    (hl : (lineAt src i).drop col = sep ++ (t ++ rest)) (hs : allSpace sep) (ht : ReadsAs t tok rest) :
    lex.go src (f + 1) i col last acc =
      lex.go src f i (col + sep.length + t.length) ⟨i, col + sep.length + t.length⟩
        (⟨tok, ⟨i, col + sep.length⟩, ⟨i, col + sep.length + t.length⟩⟩ :: acc) := by
  have hd : (lineAt src i).drop (col + sep.length) = t ++ rest := by rw [← List.drop_drop, hl, List.drop_left]
  rw [lex.go, skipWs_piece src i col _ sep t rest tok hl hs ht]
  simp only [hd, ht.read]

theorem go_trail (src : List Line) (f i col : Nat) (last : Cursor) (acc : List Lexeme) (ht : Trail ((lineAt src i).drop col)) :
    lex.go src (f + 1) i col last acc =
      if i + 1 < src.length then lex.go src (f + 1) (i + 1) 0 last acc else (acc.reverse, .eof last) := by
  rw [lex.go, skipWs_trail src i col _ ht]
  by_cases h : i + 1 < src.length
  · rw [if_pos h, if_pos h, lex.go,
      skipWs_fuel src (src.length - (i + 1)) (i + 1) 0 src.length (src.length + 1) (Nat.le_refl _) (by omega) (by omega)]
  · rw [if_neg h, if_neg h]

/-- the pieces of one line, given what the loop does from the trailing part on (`K`: the lexemes of the later lines) -/
theorem go_pieces (src : List Line) (i n : Nat) (K : List Lexeme)
    (hK : ∀ col last acc f, n < f → Trail ((lineAt src i).drop col) →
      lex.go src f i col last acc = (acc.reverse ++ K, .eof (lastOf last K))) (trail : Line) :
    ∀ (ps : List Piece) (col : Nat) (last : Cursor) (acc : List Lexeme) (fuel : Nat), ps.length + n < fuel →
      (lineAt src i).drop col = renderLine ps trail → WFLine ps trail →
      lex.go src fuel i col last acc =
        (acc.reverse ++ (lexemesAt i col ps ++ K), .eof (lastOf last (lexemesAt i col ps ++ K))) := by
  intro ps
  induction ps with
  | nil =>
    intro col last acc fuel hf hl hw
    exact hK col last acc fuel (by simpa using hf) (by rw [hl]; exact hw)
  | cons p ps ih =>
    intro col last acc fuel hf hl hw
    obtain ⟨sep, t, tok⟩ := p
    obtain ⟨hs, hd, hw'⟩ := hw
    obtain ⟨f, rfl⟩ : ∃ f, fuel = f + 1 := ⟨fuel - 1, by omega⟩
    rw [go_piece src f i col last acc sep t _ tok hl hs hd,
      ih _ _ _ f (by simp only [List.length_cons] at hf; omega) (drop_piece hl) hw']
    simp only [lexemesAt, List.cons_append, lastOf_cons, List.reverse_cons, List.append_assoc, List.nil_append]

theorem go_lines (lines : List (List Piece × Line)) (hwf : ∀ l ∈ lines, WFLine l.1 l.2) :
    ∀ (rem pre : List (List Piece × Line)) (cur : List Piece × Line), lines = pre ++ cur :: rem →
      ∀ (ps : List Piece) (col : Nat) (last : Cursor) (acc : List Lexeme) (fuel : Nat), ps.length + countPieces rem < fuel →
      (render cur).drop col = renderLine ps cur.2 → WFLine ps cur.2 →
      lex.go (lines.map render) fuel pre.length col last acc =
        (acc.reverse ++ (lexemesAt pre.length col ps ++ lexemesFrom (pre.length + 1) rem),
         .eof (lastOf last (lexemesAt pre.length col ps ++ lexemesFrom (pre.length + 1) rem))) := by
  intro rem
  induction rem with
  | nil =>
    intro pre cur hlines ps col last acc fuel hf hl hw
    have hline : lineAt (lines.map render) pre.length = render cur := by rw [hlines]; exact lineAt_mid pre [] cur
    refine go_pieces _ _ 0 [] (fun col last acc f hf ht => ?_) cur.2 ps col last acc fuel hf (by rw [hline]; exact hl) hw
    obtain ⟨g, rfl⟩ : ∃ g, f = g + 1 := ⟨f - 1, by omega⟩
    rw [go_trail _ g _ col last acc ht, if_neg (by rw [hlines]; simp)]
    simp [lastOf]
  | cons next rem' ih =>
    intro pre cur hlines ps col last acc fuel hf hl hw
    have hline : lineAt (lines.map render) pre.length = render cur := by rw [hlines]; exact lineAt_mid pre _ cur
    refine go_pieces _ _ (countPieces (next :: rem')) _ (fun col last acc f hf ht => ?_) cur.2 ps col last acc fuel hf
      (by rw [hline]; exact hl) hw
    obtain ⟨g, rfl⟩ : ∃ g, f = g + 1 := ⟨f - 1, by omega⟩
    rw [go_trail _ g _ col last acc ht, if_pos (by rw [hlines]; simp)]
    have := ih (pre ++ [cur]) next (by rw [hlines]; simp) next.1 0 last acc (g + 1) hf rfl
      (hwf next (by rw [hlines]; simp))
    simp only [List.length_append, List.length_cons, List.length_nil, Nat.zero_add] at this
    rw [this]
    rfl

theorem pieces_le_len : ∀ (ps : List Piece) (trail : Line), WFLine ps trail → ps.length ≤ (renderLine ps trail).length := by
  intro ps
  induction ps with
  | nil => intro trail _; exact Nat.zero_le _
  | cons p ps ih =>
    intro trail hw
    obtain ⟨sep, t, tok⟩ := p
    have h1 : 0 < t.length := List.length_pos_iff.2 hw.2.1.nonempty
    have h2 := ih trail hw.2.2
    simp only [renderLine, List.length_append, List.length_cons]
    omega

theorem count_lt_total (lines : List (List Piece × Line)) (hwf : ∀ l ∈ lines, WFLine l.1 l.2) :
    countPieces lines < (lines.map render).foldl (fun a l => a + l.length + 1) 1 := by
  rw [foldl_total]
  suffices countPieces lines ≤ ((lines.map render).map (fun l => l.length + 1)).sum by omega
  induction lines with
  | nil => simp [countPieces]
  | cons l ls ih =>
    obtain ⟨ps, trail⟩ := l
    have h1 := pieces_le_len ps trail (hwf (ps, trail) (List.mem_cons_self))
    have h2 := ih (fun l hl => hwf l (List.mem_cons_of_mem _ hl))
    simp only [countPieces, List.map_cons, List.sum_cons, render]
    omega

/-- **C12 (v), (vi) for the lexer model**: for every source whose lines are well-formed layouts (`WFLine`),
`lex` returns exactly the tokens of the pieces in order, each with the span of exactly its text, and ends
normally at the end of the last token — whatever the separators, comments and line breaks are -/
theorem lex_layout (lines : List (List Piece × Line)) (hwf : ∀ l ∈ lines, WFLine l.1 l.2) :
    lex (lines.map render) = (lexemesFrom 0 lines, .eof (lastOf ⟨0, 0⟩ (lexemesFrom 0 lines))) := by
  cases lines with
  | nil => rfl
  | cons first rest =>
    obtain ⟨ps, trail⟩ := first
    have := go_lines ((ps, trail) :: rest) hwf rest [] (ps, trail) rfl ps 0 ⟨0, 0⟩ [] _ (count_lt_total _ hwf) rfl
      (hwf (ps, trail) List.mem_cons_self)
    simp only [List.length_nil, List.reverse_nil, List.nil_append, Nat.zero_add] at this
    unfold lex
    rw [this]
    rfl

def tokensOf (lines : List (List Piece × Line)) : List Tok := lines.flatMap (fun l => l.1.map (fun p => p.2.2))

theorem lexemesAt_toks (i : Nat) : ∀ (ps : List Piece) (col : Nat), (lexemesAt i col ps).map (·.tok) = ps.map (fun p => p.2.2) := by
  intro ps
  induction ps with
  | nil => intro col; rfl
  | cons p ps ih => intro col; obtain ⟨sep, t, tok⟩ := p; simp [lexemesAt, ih]

theorem lexemesFrom_toks : ∀ (lines : List (List Piece × Line)) (i : Nat), (lexemesFrom i lines).map (·.tok) = tokensOf lines := by
  intro lines
  induction lines with
  | nil => intro i; rfl
  | cons l ls ih => intro i; obtain ⟨ps, trail⟩ := l; simp [lexemesFrom, tokensOf, lexemesAt_toks, ih, List.flatMap_cons]

/-- **layout independence**: two layouts of the same token texts, in the same order, lex to the same token
sequence, and neither ends in an error -/
theorem layout_independent (lines lines' : List (List Piece × Line))
    (hwf : ∀ l ∈ lines, WFLine l.1 l.2) (hwf' : ∀ l ∈ lines', WFLine l.1 l.2) (hsame : tokensOf lines = tokensOf lines') :
    (lex (lines.map render)).1.map (·.tok) = (lex (lines'.map render)).1.map (·.tok) ∧
    (∃ c, (lex (lines.map render)).2 = .eof c) ∧ (∃ c, (lex (lines'.map render)).2 = .eof c) := by
  rw [lex_layout lines hwf, lex_layout lines' hwf']
  exact ⟨by simp only [lexemesFrom_toks, hsame], ⟨_, rfl⟩, ⟨_, rfl⟩⟩

/-- **span exactness**: within a line, the span of every lexeme covers exactly the text of its piece -/
theorem spans_exact (i : Nat) : ∀ (ps : List Piece) (trail L : Line) (col : Nat), L.drop col = renderLine ps trail →
    ∀ lx ∈ lexemesAt i col ps, ∃ p ∈ ps, lx.tok = p.2.2 ∧ lx.start.line = i ∧ lx.stop.line = i ∧
      (L.drop lx.start.col).take (lx.stop.col - lx.start.col) = p.2.1 := by
  intro ps
  induction ps with
  | nil => intro trail L col _ lx hlx; cases hlx
  | cons p ps ih =>
    intro trail L col hdrop lx hlx
    obtain ⟨sep, t, tok⟩ := p
    simp only [lexemesAt, List.mem_cons] at hlx
    simp only [renderLine] at hdrop
    rcases hlx with rfl | hlx
    · refine ⟨(sep, t, tok), List.mem_cons_self, rfl, rfl, rfl, ?_⟩
      show (L.drop (col + sep.length)).take (col + sep.length + t.length - (col + sep.length)) = t
      rw [← List.drop_drop, hdrop, List.drop_left, Nat.add_sub_cancel_left, List.take_left]
    · obtain ⟨q, hq, h⟩ := ih trail L (col + sep.length + t.length) (drop_piece hdrop) lx hlx
      exact ⟨q, List.mem_cons_of_mem _ hq, h⟩

end HidVerif.Hid.Lex
