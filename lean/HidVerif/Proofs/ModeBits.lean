import HidVerif.Hid.ExitModes
/-!
# The flags of `ExitMode` as bits

`has m (2^k)` is bit `k` of `m`, and `replace` and `lor` act bit by bit, whatever the size of the mode value.
`replace_lt`, `lor_lt`: the invariants `Exit.Inv` and `TC.ModeOK` record that mode values stay below `32 = 2^5`.
-/
namespace HidVerif.Hid.Exit

theorem flag_NONE : NONE = 2^0 := by decide
theorem flag_BREAK : BREAK = 2^1 := by decide
theorem flag_LOOP : LOOP = 2^2 := by decide
theorem flag_DEFEAT : DEFEAT = 2^3 := by decide
theorem flag_RETURN : RETURN = 2^4 := by decide

theorem has_pow (m k : Nat) : has m (2^k) = m.testBit k := by
  have key : (m &&& 2^k = 2^k) ↔ m.testBit k = true := by
    constructor
    · intro h
      have := congrArg (·.testBit k) h
      simpa only [Nat.testBit_and, Nat.testBit_two_pow_self, Bool.and_true] using this
    · intro h
      apply Nat.eq_of_testBit_eq
      intro i
      rw [Nat.testBit_and, Nat.testBit_two_pow]
      by_cases hk : k = i
      · subst hk; rw [h, Bool.true_and]
      · rw [decide_eq_false hk, Bool.and_false]
  show (m &&& 2^k == 2^k) = m.testBit k
  cases hb : m.testBit k
  · exact beq_eq_false_iff_ne.2 (fun h => by rw [key.1 h] at hb; cases hb)
  · exact beq_iff_eq.2 (key.2 hb)

/-- the mask `~2^j` within a byte -/
theorem mask_testBit {j : Nat} (hj : j < 8) (k : Nat) : (255 - 2^j).testBit k = (decide (k < 8) && !decide (j = k)) := by
  have := Nat.testBit_two_pow_sub_succ (Nat.pow_lt_pow_right (a := 2) (by decide) hj) k
  rw [Nat.testBit_two_pow] at this
  rw [show 255 - 2^j = 2^8 - (2^j + 1) by omega]
  exact this

theorem has_replace (m o n k : Nat) :
    has (replace m o n) (2^k) = (has m (2^k) && (255 - o).testBit k || has n (2^k)) := by
  simp only [has_pow]
  show ((m &&& (255 - o)) ||| n).testBit k = _
  rw [Nat.testBit_or, Nat.testBit_and]

theorem has_replace_self {b k : Nat} (hb : b = 2^k) (m n : Nat) (hk : k < 8 := by decide) :
    has (replace m b n) b = has n b := by
  subst hb
  rw [has_replace, mask_testBit hk, decide_eq_true rfl, Bool.not_true, Bool.and_false, Bool.and_false, Bool.false_or]

theorem has_replace_ne {o b j k : Nat} (ho : o = 2^j) (hb : b = 2^k) (m n : Nat) (hj : j < 8 := by decide) (hk : k < 8 := by decide)
    (hjk : j ≠ k := by decide) : has (replace m o n) b = (has m b || has n b) := by
  subst ho hb
  rw [has_replace, mask_testBit hj, decide_eq_true hk, decide_eq_false hjk, Bool.not_false, Bool.and_true, Bool.and_true]

theorem has_lor {b k : Nat} (hb : b = 2^k) (m n : Nat) : has (Nat.lor m n) b = (has m b || has n b) := by
  subst hb
  simp only [has_pow]
  exact Nat.testBit_or ..

theorem has_flag {a b j k : Nat} (ha : a = 2^j) (hb : b = 2^k) : has a b = decide (j = k) := by
  rw [ha, hb, has_pow, Nat.testBit_two_pow]

theorem replace_lt {m n : Nat} (o : Nat) (hm : m < 32) (hn : n < 32) : replace m o n < 32 :=
  Nat.or_lt_two_pow (n := 5) (Nat.lt_of_le_of_lt Nat.and_le_left hm) hn

theorem lor_lt {m n : Nat} (hm : m < 32) (hn : n < 32) : Nat.lor m n < 32 :=
  Nat.or_lt_two_pow (n := 5) hm hn

end HidVerif.Hid.Exit
