import HidVerif.Proofs.CoreLen
import HidVerif.Proofs.WriteIntSpec
/-!
# Core compiler proofs: the frame (`Fr`, `Keep`), register and slot accesses, the caller's side of a call
-/
namespace HidVerif.Core
open HidVerif HidVerif.PSys HidVerif.Sphinx HidVerif.Gen

/-- the compile context of a program: its own word size -/
abbrev cxOf (p : Prog) (ck : Bool) (B : Nat) (dA : Nat) : Cx := ⟨p.w, ck, B, dA⟩

/-- what an accessor denotes in memory `m` with frame pointer `F` -/
def valOf (w : Nat) (m : Mem) (F : Nat) : Opd → Nat
  | .imm v => wrapI (256 ^ w) v
  | .reg a => m.readLE a w
  | .slot s => m.readLE (F - s) w

/-- `m'` differs from `m` only in the registers `r0 r1 r2` and below address `a` -/
structure Keep (w : Nat) (m m' : Mem) (a : Nat) : Prop where
  size : m'.size = m.size
  fp : m'.readLE w w = m.readLE w w
  ap : m'.readLE 0 w = m.readLE 0 w
  hi : ∀ x, a ≤ x → m'.rd x = m.rd x

theorem Keep.refl (w : Nat) (m : Mem) (a : Nat) : Keep w m m a := ⟨rfl, rfl, rfl, fun _ _ => rfl⟩

theorem Keep.mono {w : Nat} {m m' : Mem} {a b : Nat} (h : Keep w m m' a) (hab : a ≤ b) : Keep w m m' b :=
  ⟨h.size, h.fp, h.ap, fun x hx => h.hi x (Nat.le_trans hab hx)⟩

theorem Keep.trans' {w : Nat} {m m1 m2 : Mem} {a : Nat} (h1 : Keep w m m1 a) (h2 : Keep w m1 m2 a) :
    Keep w m m2 a :=
  ⟨h2.size.trans h1.size, h2.fp.trans h1.fp, h2.ap.trans h1.ap, fun x hx => (h2.hi x hx).trans (h1.hi x hx)⟩

theorem Keep.write (w : Nat) (m : Mem) (d k v a : Nat) (h2 : 2 * w ≤ d) (ha : d + k ≤ a) :
    Keep w m (m.writeLE d k v) a :=
  ⟨by simp, Mem.readLE_writeLE_disj _ _ _ _ _ _ (Or.inl (Nat.two_mul w ▸ h2)),
   Mem.readLE_writeLE_disj _ _ _ _ _ _ (Or.inl (Nat.le_trans (Nat.le_of_eq (Nat.zero_add _)) (Nat.le_trans (Nat.le_mul_of_pos_left _ (by decide)) h2))),
   fun x hx => Mem.rd_writeLE_other _ _ _ _ _ (Or.inr (Nat.le_trans ha hx))⟩

theorem Keep.read {w : Nat} {m m' : Mem} {a : Nat} (h : Keep w m m' a) (x k : Nat) (hx : a ≤ x) :
    m'.readLE x k = m.readLE x k :=
  Mem.readLE_congr _ _ _ _ (fun y h1 _ => h.hi y (Nat.le_trans hx h1))

/-- `fp` holds `F`, and `D` bytes of stack lie between the registers and the frame pointer -/
structure Fr (p : Prog) (m : Mem) (F D : Nat) : Prop where
  fp : m.readLE p.w p.w = F
  ap : m.readLE 0 p.w = 5 * p.w
  top : F ≤ m.size
  lt : F < 256 ^ p.w
  room : 5 * p.w + D = F

theorem Fr.keep {p : Prog} {m m' : Mem} {F D a : Nat} (h : Fr p m F D) (k : Keep p.w m m' a) : Fr p m' F D :=
  ⟨by rw [k.fp]; exact h.fp, by rw [k.ap]; exact h.ap, by rw [k.size]; exact h.top, h.lt, h.room⟩

theorem r0_ok (w : Nat) : 2 * w ≤ 2 * w ∧ 2 * w + w ≤ 5 * w := by omega
theorem r1_ok (w : Nat) : 2 * w ≤ 3 * w ∧ 3 * w + w ≤ 5 * w := by omega
theorem r0_r1 (w : Nat) : 2 * w + w ≤ 3 * w := by omega
theorem fp_ok (w : Nat) : w + w ≤ 5 * w := by omega
theorem pos_of_w {w s : Nat} (hw : 2 ≤ w) (h : w ≤ s) : 0 < s := Nat.lt_of_lt_of_le (Nat.lt_of_lt_of_le (by decide) hw) h

/-- accessors that can be used as instruction operands -/
def IsArg (w : Nat) : Opd → Prop
  | .imm _ => True
  | .reg a => a + w ≤ 5 * w
  | .slot _ => False

theorem valOf_lt (w : Nat) (m : Mem) (F : Nat) (v : Opd) : valOf w m F v < 256 ^ w := by
  cases v with
  | imm i => exact wrapI_lt (Nat.pow_pos (by decide)) i
  | reg a => exact Mem.readLE_lt _ _ _
  | slot s => exact Mem.readLE_lt _ _ _

section steps
variable {p : Prog} {pc : Nat} {m : Mem} {F D : Nat} {dA : Nat}

theorem Fr.reg_ok (fr : Fr p m F D) (hw : 2 ≤ p.w) {a : Nat} (ha : a + p.w ≤ 5 * p.w) :
    a < p.M ∧ a + p.w ≤ m.size := by
  have h64 := mul_w_lt_pow p.w hw
  have := fr.top; have := fr.room
  unfold Prog.M; omega

theorem Fr.ev_st (fr : Fr p m F D) (hw : 2 ≤ p.w) {a : Nat} (ha : a + p.w ≤ 5 * p.w) :
    evalArg p ⟨pc, m⟩ (.st a) = some (m.readLE a p.w) :=
  Sphinx.ev_st (fr.reg_ok hw ha).1 (fr.reg_ok hw ha).2

theorem Fr.ev_wr (fr : Fr p m F D) (hw : 2 ≤ p.w) {d x : Nat} (hd : 2 * p.w ≤ d ∧ d + p.w ≤ 5 * p.w)
    (hx : x < 256 ^ p.w) : evalArg p ⟨pc, m.writeLE d p.w x⟩ (.st d) = some x := by
  rw [(fr.keep (Keep.write p.w m d p.w x (5 * p.w) hd.1 hd.2)).ev_st hw hd.2,
    Mem.readLE_writeLE_same _ _ _ _ (fr.reg_ok hw hd.2).2, Nat.mod_eq_of_lt hx]

theorem Fr.step_alu (fr : Fr p m F D) (hw : 2 ≤ p.w) {op : AluOp} {d : Nat} {a b : Arg} {x y r : Nat}
    (hc : p.code[pc]? = some (.alu op d a b))
    (ha : evalArg p ⟨pc, m⟩ a = some x) (hb : evalArg p ⟨pc, m⟩ b = some y)
    (hr : aluOp (256 ^ p.w) (8 * p.w) op x y = some r) (hd : d + p.w ≤ 5 * p.w) :
    Sphinx.step p ⟨pc, m⟩ = .next ⟨pc + 1, m.writeLE d p.w r⟩ none :=
  Sphinx.step_alu hc ha hb hr (fr.reg_ok hw hd).1 (fr.reg_ok hw hd).2

theorem Fr.step_mov (fr : Fr p m F D) (hw : 2 ≤ p.w) {d : Nat} {v : Arg} {x : Nat}
    (hc : p.code[pc]? = some (.mov d v)) (hv : evalArg p ⟨pc, m⟩ v = some x) (hd : d + p.w ≤ 5 * p.w) :
    Sphinx.step p ⟨pc, m⟩ = .next ⟨pc + 1, m.writeLE d p.w x⟩ none :=
  Sphinx.step_mov hc hv (fr.reg_ok hw hd).1 (fr.reg_ok hw hd).2

theorem Fr.ev_fp (fr : Fr p m F D) (hw : 2 ≤ p.w) : evalArg p ⟨pc, m⟩ (.st p.w) = some F := by
  rw [fr.ev_st hw (by omega), fr.fp]

/-- the address `[fp] + (-s)` of the frame slot at offset `s` -/
theorem Fr.slot_addr (fr : Fr p m F D) {s : Nat} (hs0 : 0 < s) (hsD : s ≤ D) :
    (F + (256 ^ p.w - s) % p.M) % p.M = F - s := by
  have := fr.room
  unfold Prog.M; exact add_neg_mod (by omega) hs0 fr.lt

theorem ev_negImm (ck : Bool) (B s : Nat) (h0 : 0 < s) (hs : s ≤ 256 ^ p.w) :
    evalArg p ⟨pc, m⟩ ((cxOf p ck B dA).negImm s) = some ((256 ^ p.w - s) % p.M) := by
  simp [Cx.negImm, Cx.M, evalArg, wrapI_neg h0 hs]

/-- `lwso [r], [fp], -s` -/
theorem step_ldSlot (ck : Bool) (B r s : Nat) (hw : 2 ≤ p.w) (fr : Fr p m F D)
    (hc : p.code[pc]? = some (ldSlot (cxOf p ck B dA) r s))
    (hs0 : p.w ≤ s) (hsD : s ≤ D) (hr : r + p.w ≤ 5 * p.w) :
    Sphinx.step p ⟨pc, m⟩ = .next ⟨pc + 1, m.writeLE r p.w (m.readLE (F - s) p.w)⟩ none := by
  have hsF : s ≤ F := fr.room ▸ Nat.le_trans hsD (Nat.le_add_left _ _)
  have e := fr.slot_addr (pos_of_w hw hs0) hsD
  have := step_lwso (m := m) (pc := pc) hc (fr.ev_fp hw) (ev_negImm ck B s (pos_of_w hw hs0) (Nat.le_of_lt (Nat.lt_of_le_of_lt hsF fr.lt)))
    (by rw [e]; exact Nat.le_trans (Nat.add_le_add_left hs0 _) (Nat.le_trans (Nat.le_of_eq (Nat.sub_add_cancel hsF)) fr.top))
    (fr.reg_ok hw hr).1 (fr.reg_ok hw hr).2
  rw [e] at this; exact this

/-- `swso [fp], -s, v` -/
theorem step_stSlot (ck : Bool) (B s : Nat) (v : Arg) (x : Nat) (hw : 2 ≤ p.w) (fr : Fr p m F D)
    (hc : p.code[pc]? = some (stSlot (cxOf p ck B dA) s v)) (hv : evalArg p ⟨pc, m⟩ v = some x)
    (hs0 : p.w ≤ s) (hsD : s ≤ D) :
    Sphinx.step p ⟨pc, m⟩ = .next ⟨pc + 1, m.writeLE (F - s) p.w x⟩ none := by
  have hsF : s ≤ F := fr.room ▸ Nat.le_trans hsD (Nat.le_add_left _ _)
  have e := fr.slot_addr (pos_of_w hw hs0) hsD
  have := step_swso (m := m) (pc := pc) hc (fr.ev_fp hw) (ev_negImm ck B s (pos_of_w hw hs0) (Nat.le_of_lt (Nat.lt_of_le_of_lt hsF fr.lt))) hv
    (by rw [e]; exact Nat.le_trans (Nat.add_le_add_left hs0 _) (Nat.le_trans (Nat.le_of_eq (Nat.sub_add_cancel hsF)) fr.top))
  rw [e] at this; exact this
end steps

theorem ev_arg_any {p : Prog} {ck : Bool} {B : Nat} {dA : Nat} (hw : 2 ≤ p.w) {m : Mem} {F D : Nat}
    (fr : Fr p m F D) (pc : Nat) (v : Opd) (h : IsArg p.w v) :
    evalArg p ⟨pc, m⟩ (v.arg (cxOf p ck B dA)) = some (valOf p.w m F v) := by
  cases v with
  | imm i =>
    simp only [Opd.arg, Cx.M, evalArg, valOf, Prog.M]
    rw [Nat.mod_eq_of_lt (wrapI_lt (Nat.pow_pos (by decide)) i)]
  | reg a => exact fr.ev_st hw h
  | slot s => exact h.elim

section
variable {p : Prog} {ck : Bool} {B : Nat} {dA : Nat} {pc : Nat} {m : Mem} {F D : Nat}

theorem ld_reach (hw : 2 ≤ p.w) (fr : Fr p m F D) (r s : Nat) (h : PlacedAt p pc [ldSlot (cxOf p ck B dA) r s])
    (hs0 : p.w ≤ s) (hsD : s ≤ D) (hr : r + p.w ≤ 5 * p.w) :
    Reach (sphinx p) ⟨pc, m⟩ [] ⟨pc + 1, m.writeLE r p.w (m.readLE (F - s) p.w)⟩ :=
  Reach.of_next (sys := sphinx p) (step_ldSlot ck B r s hw fr (placed_one h) hs0 hsD hr)

theorem st_reach (hw : 2 ≤ p.w) (fr : Fr p m F D) (s : Nat) (v : Arg) (x : Nat)
    (h : PlacedAt p pc [stSlot (cxOf p ck B dA) s v]) (hv : evalArg p ⟨pc, m⟩ v = some x)
    (hs0 : p.w ≤ s) (hsD : s ≤ D) :
    Reach (sphinx p) ⟨pc, m⟩ [] ⟨pc + 1, m.writeLE (F - s) p.w x⟩ :=
  Reach.of_next (sys := sphinx p) (step_stSlot ck B s v x hw fr (placed_one h) hv hs0 hsD)

theorem reach_append {pc : Nat} {m m1 m2 : Mem} {c1 c2 : List Instr}
    (h1 : Reach (sphinx p) ⟨pc, m⟩ [] ⟨pc + c1.length, m1⟩)
    (h2 : Reach (sphinx p) ⟨pc + c1.length, m1⟩ [] ⟨pc + c1.length + c2.length, m2⟩) :
    Reach (sphinx p) ⟨pc, m⟩ [] ⟨pc + (c1 ++ c2).length, m2⟩ := by
  rw [List.length_append, ← Nat.add_assoc]; exact h1.trans h2

theorem reach_seq {s s1 s2 : St} (h1 : Reach (sphinx p) s [] s1) (h2 : Reach (sphinx p) s1 [] s2) :
    Reach (sphinx p) s [] s2 := h1.trans h2
end

section
variable {p : Prog} {ck : Bool} {B : Nat} {dA : Nat}

theorem code_lt (lib : Placed p B) {a : Nat} (h : a ≤ B) : a < 256 ^ p.w :=
  Nat.lt_of_le_of_lt (Nat.le_trans h (Nat.le_add_right _ _)) lib.hB

theorem halt_lt (lib : Placed p B) : B + off_halt < 256 ^ p.w := by
  have hBM := lib.hB; simp [stdlibLength, off_halt, off_all_is_win] at hBM ⊢; omega

/-! ## the call protocol (`eval_func_call`, general path): what the caller does around the callee -/

/-- the callee's frame in the caller's: `A` is the address of the return address, `A + w` the callee's frame pointer.
The caller's names for them stand behind `Unit →`, out of the way of `omega` -/
theorem callee_frame {F D o w : Nat} (hroom : 5 * w + D = F) (hoW : o + w ≤ D) :
    ∃ A D', A + (o + w) = F ∧ D' + o = D ∧ A + w + o = F ∧ 5 * w ≤ A ∧ A + w ≤ F ∧
      (Unit → F - o = A + w ∧ F - (o + w) = A ∧ D - o = D') :=
  have h1 : F - (o + w) + (o + w) = F := Nat.sub_add_cancel (hroom ▸ Nat.le_trans hoW (Nat.le_add_left _ _))
  have h3 : F - (o + w) + w + o = F := by rw [Nat.add_assoc, Nat.add_comm w o]; exact h1
  ⟨_, _, h1, Nat.sub_add_cancel (Nat.le_trans (Nat.le_add_right _ _) hoW), h3,
    Nat.le_sub_of_add_le (hroom ▸ Nat.add_le_add_left hoW _), Nat.le_trans (Nat.le_add_right _ o) (Nat.le_of_eq h3),
    fun _ => ⟨Nat.sub_eq_of_eq_add h3.symm, rfl, rfl⟩⟩

theorem call_ra (hw : 2 ≤ p.w) {F D o pc r A : Nat} {m : Mem} (fr : Fr p m F D) (hA : A + (o + p.w) = F) (ho : p.w ≤ o)
    (hoD : o + p.w ≤ D) (hr : r < 256 ^ p.w) (h : PlacedAt p pc [stSlot (cxOf p ck B dA) (o + p.w) (.imm r)]) :
    Reach (sphinx p) ⟨pc, m⟩ [] ⟨pc + 1, m.writeLE A p.w r⟩ ∧
    Keep p.w m (m.writeLE A p.w r) (A + p.w) ∧ (m.writeLE A p.w r).readLE A p.w = r := by
  have hA2 : 2 * p.w ≤ A := by have := fr.room; omega
  refine ⟨Nat.sub_eq_of_eq_add hA.symm ▸ st_reach hw fr (o + p.w) (.imm r) r h (ev_imm_lt hr) (Nat.le_add_left _ _) hoD,
    Keep.write _ _ _ _ _ _ hA2 (Nat.le_refl _), ?_⟩
  rw [Mem.readLE_writeLE_same _ _ _ _ (Nat.le_trans (hA ▸ Nat.add_le_add_left (Nat.le_add_left _ _) _) fr.top)]; exact Nat.mod_eq_of_lt hr

/-- `fp` moves down by the caller's stack offset `o` to `G` and control goes to the callee at `t`, which has `D'`
bytes of stack below its frame -/
theorem call_jump (hw : 2 ≤ p.w) {F D o a t G D' : Nat} {m : Mem} (fr : Fr p m F D) (hG : G + o = F) (hD : D' + o = D)
    (ho : p.w ≤ o) (ht : t < 256 ^ p.w)
    (hadd : p.code[a]? = some (.alu .add p.w (.st p.w) ((cxOf p ck B dA).negImm o)))
    (hj : p.code[a + 1]? = some (.j (.imm t))) (hh : p.code[a + 1 + 1]? = some .halt) :
    Reach (sphinx p) ⟨a, m⟩ [] ⟨t, m.writeLE p.w p.w G⟩ ∧ Fr p (m.writeLE p.w p.w G) G D' ∧
    (∀ x, 2 * p.w ≤ x → (m.writeLE p.w p.w G).rd x = m.rd x) := by
  have hFM := fr.lt
  have hGF : G ≤ F := hG ▸ Nat.le_add_right _ _
  have hoF : o ≤ F := hG ▸ Nat.le_add_left _ _
  have s := fr.step_alu hw hadd (fr.ev_fp hw)
    (ev_negImm ck B o (pos_of_w hw ho) (Nat.le_of_lt (Nat.lt_of_le_of_lt hoF hFM)))
    (r := G) (congrArg some ((fr.slot_addr (pos_of_w hw ho) (hD ▸ Nat.le_add_left _ _)).trans
      (Nat.sub_eq_of_eq_add hG.symm))) (fp_ok _)
  refine ⟨reach_seq (Reach.of_next (sys := sphinx p) s) (jump_halt hj hh (ev_imm_lt ht)),
    ⟨?_, ?_, by rw [Mem.size_writeLE]; exact Nat.le_trans hGF fr.top, Nat.lt_of_le_of_lt hGF hFM, ?_⟩,
    fun x hx => Mem.rd_writeLE_other _ _ _ _ _ (Or.inr (Nat.le_trans (Nat.le_of_eq (Nat.two_mul _).symm) hx))⟩
  · rw [Mem.readLE_writeLE_same _ _ _ _ (fr.reg_ok hw (fp_ok _)).2]; exact Nat.mod_eq_of_lt (Nat.lt_of_le_of_lt hGF hFM)
  · rw [Mem.readLE_writeLE_disj _ _ _ _ _ _ (Or.inl (Nat.le_of_eq (Nat.zero_add _)))]; exact fr.ap
  · have := fr.room; omega

/-- `m` is the caller's memory before the jump, `m'` the one the callee left -/
theorem call_leave (hw : 2 ≤ p.w) {F D o a lo G : Nat} {m m' : Mem} (fr : Fr p m F D) (hG : G + o = F) (hlo : 2 * p.w ≤ lo)
    (hadd : p.code[a]? = some (.alu .add p.w (.st p.w) (.imm (wrapI (256 ^ p.w) o))))
    (hsz : m'.size = m.size) (hfp : m'.readLE p.w p.w = G) (hap : m'.readLE 0 p.w = 5 * p.w)
    (hhi : ∀ x, lo ≤ x → m'.rd x = m.rd x) :
    Reach (sphinx p) ⟨a, m'⟩ [] ⟨a + 1, m'.writeLE p.w p.w F⟩ ∧ Keep p.w m (m'.writeLE p.w p.w F) lo := by
  have hFM := fr.lt
  have hreg := fr.reg_ok hw (fp_ok p.w)
  have hoM : o < 256 ^ p.w := Nat.lt_of_le_of_lt (hG ▸ Nat.le_add_left _ _) hFM
  have efp : evalArg p ⟨a, m'⟩ (.st p.w) = some G := by rw [ev_st hreg.1 (hsz ▸ hreg.2), hfp]
  have eo : evalArg p ⟨a, m'⟩ (.imm (wrapI (256 ^ p.w) o)) = some o := by
    rw [wrapI_nat hoM]; exact ev_imm_lt hoM
  have s := step_alu (m := m') hadd efp eo (alu_add_lt (by rw [hG]; exact hFM)) hreg.1 (hsz ▸ hreg.2)
  rw [hG] at s
  refine ⟨Reach.of_next (sys := sphinx p) s, by simp [hsz], ?_, ?_, fun x hx => ?_⟩
  · rw [Mem.readLE_writeLE_same _ _ _ _ (hsz ▸ hreg.2), fr.fp]; exact Nat.mod_eq_of_lt hFM
  · rw [Mem.readLE_writeLE_disj _ _ _ _ _ _ (Or.inl (Nat.le_of_eq (Nat.zero_add _))), hap, fr.ap]
  · rw [Mem.rd_writeLE_other _ _ _ _ _ (Or.inr (Nat.le_trans (Nat.le_of_eq (Nat.two_mul _).symm) (Nat.le_trans hlo hx))), hhi x hx]
end

end HidVerif.Core
