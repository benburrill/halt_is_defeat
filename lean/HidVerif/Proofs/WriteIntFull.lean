import HidVerif.Proofs.PrintLoop
import HidVerif.Proofs.DigitLoop
/-!
# `write_int`: from the digit buffer to the return, and the two paths into the digit loops
-/
namespace HidVerif.Sphinx
open HidVerif HidVerif.PSys HidVerif.Gen

theorem wi_finish (p : Prog) (B : Nat) (hp : Placed p B)
    (m : Mem) (F ra r1 k : Nat) (ds : List Nat)
    (hk : 0 < k) (hkH : k < 256 ^ p.w / 2) (hroom : 5 * p.w + k + p.w ≤ F) (h7 : 7 * p.w ≤ F)
    (hFM : F < 256 ^ p.w) (hFsz : F ≤ m.size)
    (hr : Regs p.w m F (F - p.w - k) r1 0) (hb : bytesAt m (F - p.w - k) k = ds)
    (hra : m.readLE (F - p.w) p.w = ra) :
    ∃ m', Reach (sphinx p) ⟨B + off_write_int + 25, m⟩ (outs ds) ⟨ra, m'⟩ ∧ Same p.w m m' 0 0 := by
  have hw := hp.hw
  have hwi := hp.wi
  have h6 : 6 * p.w ≤ F := Nat.le_trans (Nat.mul_le_mul_right _ (by decide)) h7
  have h5a : 5 * p.w ≤ F - p.w - k := Nat.le_sub_of_add_le (Nat.le_sub_of_add_le hroom)
  -- r1 := fp - r0 = w + k; r1 -= w
  obtain ⟨m1, x25, hr1, sm1⟩ := hr.wr1
    (hr.step_alu hw (hwi.get 25 rfl) (.inr (.inl rfl)) (hr.ev_fp hw) (hr.ev_r0 hw)
      (alu_sub_le (Nat.le_trans (Nat.sub_le _ _) (Nat.sub_le _ _)) hFM))
  obtain ⟨m2, x26, hr2, sm2⟩ := hr1.wr1
    (hr1.step_alu hw (hwi.get 26 rfl) (.inr (.inl rfl)) (hr1.ev_r1 hw) (ev_imm_lt (w_lt_pow p.w))
      (alu_sub_le (by omega) (Nat.lt_of_le_of_lt (Nat.sub_le _ _) hFM)))
  rw [show F - (F - p.w - k) - p.w = k by omega] at hr2
  have sm := sm1.trans0 sm2
  have d := dispatch hr2 hw hkH (hwi.get 27 rfl) (hwi.get 28 rfl) (hwi.get 29 rfl) (hwi.get 30 rfl)
    (hp.wsba.get 6 rfl) (hp.addr_lt _ 6 (by decide)) (hp.addr_lt _ 13 (by decide))
  obtain ⟨m', y, sm'⟩ := bytes_out .state (B + off_write_state_byte_array + 6) hw
    (hp.addr_lt _ 13 (by decide)) hp.wsba_loop
    hkH (by omega) (show F - p.w - k + k ≤ m2.size by rw [sm.1]; omega) (fun _ => h5a) h6 hFM
    (sm.1 ▸ hFsz) (sm.ra h6 (Nat.zero_le _) hra) hr2
  rw [show bytesAt (secMem p m2 .state) (F - p.w - k) k = ds from
    (sm.bytesAt _ _ h5a (.inr (Nat.zero_le _))).trans hb] at y
  exact ⟨m', x25.trans (x26.trans (d.trans y)), sm.trans0 sm'⟩

theorem wi_pos (p : Prog) (B : Nat) (hp : Placed p B)
    (m : Mem) (F n ra r1 : Nat)
    (hn : n < 256 ^ p.w / 2) (hroom : 5 * p.w + (digits n).length + p.w ≤ F) (h7 : 7 * p.w ≤ F)
    (hFM : F < 256 ^ p.w) (hFsz : F ≤ m.size)
    (hr : Regs p.w m F (F - p.w) r1 n) (hra : m.readLE (F - p.w) p.w = ra) :
    ∃ m', Reach (sphinx p) ⟨B + off_write_int + 14, m⟩ (outs (digits n)) ⟨ra, m'⟩ ∧
      Same p.w m m' (F - p.w - (digits n).length) (F - p.w) := by
  have hw := hp.hw
  have hM := pow_ge2 p.w hw
  have hwi := hp.wi
  have h6 : 6 * p.w ≤ F := Nat.le_trans (Nat.mul_le_mul_right _ (by decide)) h7
  -- `hlt r2, 0` does not fire; `j get_digits_body; halt`
  have x14 := hcond_pass (m := m) (hwi.get 14 rfl) (hr.ev_r2 hw)
    (ev_imm_small hw (by decide))
    ((hlt0 (Nat.le_trans (by decide) hM) (Nat.lt_of_lt_of_le hn (Nat.div_le_self _ _))).trans
      (decide_eq_false (not_not_intro hn)))
  have x15 := jump_halt (m := m) (hwi.get 15 rfl) (hwi.get 16 rfl)
    (ev_imm_lt (hp.addr_lt off_write_int 18 (by decide)))
  obtain ⟨m2, r1', hdl, hr2, hbytes, hsame2⟩ :=
    digit_loop p B hp n m F (F - p.w) r1 hn (Nat.lt_of_le_of_lt (Nat.sub_le _ _) hFM)
      (Nat.le_sub_of_add_le hroom) (Nat.le_trans (Nat.sub_le _ _) hFsz) hr
  obtain ⟨m4, hfin, hsame4⟩ := wi_finish p B hp m2 F ra r1' (digits n).length (digits n) (digits_pos n)
    (digits_len_lt_half hM (Nat.le_of_lt hn)) hroom h7 hFM (hsame2.1 ▸ hFsz) hr2 hbytes
    (hsame2.ra h6 (Nat.le_refl _) hra)
  exact ⟨m4, x14.trans (x15.trans (hdl.trans hfin)),
    hsame2.trans (hsame4.of_zero _ _) (Nat.le_refl _) (Nat.le_refl _)⟩

/-- the minimum integer: from +8 with `H = M / 2` in `r2`, which reads as negative, so the first digit
is split off after subtracting ten (`H - 10` is non-negative) before joining the push loop -/
theorem wi_min (p : Prog) (B : Nat) (hp : Placed p B) (m : Mem) (F ra r1 H : Nat)
    (hH : 32768 ≤ H) (hHM : 2 * H ≤ 256 ^ p.w) (hroom : 5 * p.w + (digits H).length + p.w ≤ F)
    (h7 : 7 * p.w ≤ F) (hFM : F < 256 ^ p.w) (hFsz : F ≤ m.size)
    (hr : Regs p.w m F (F - p.w) r1 H) (hra : m.readLE (F - p.w) p.w = ra) :
    ∃ m', Reach (sphinx p) ⟨B + off_write_int + 8, m⟩ (outs (digits H)) ⟨ra, m'⟩ ∧
      Same p.w m m' (F - p.w - (digits H).length) (F - p.w) := by
  have hw := hp.hw
  have hM := pow_ge2 p.w hw
  have hwi := hp.wi
  have h6 : 6 * p.w ≤ F := Nat.le_trans (Nat.mul_le_mul_right _ (by decide)) h7
  have h10 : 10 ≤ H := Nat.le_trans (by decide) hH
  -- r2 -= 10; r1 := r2 % 10; r2 /= 10; r2 += 1
  obtain ⟨m8, x8, hr8, sm8⟩ := hr.wr2
    (hr.step_alu hw (hwi.get 8 rfl) (.inr (.inr rfl)) (hr.ev_r2 hw) (ev_imm_small hw (by decide))
      (alu_sub_le h10 (by omega)))
  obtain ⟨m10, x9, hr10, sm10⟩ := hr8.divmod10 hw (by omega) (hwi.get 9 rfl) (hwi.get 10 rfl)
  obtain ⟨m11, x11, hr11, sm11⟩ := hr10.wr2
    (hr10.step_alu hw (hwi.get 11 rfl) (.inr (.inr rfl)) (hr10.ev_r2 hw) (ev_imm_small hw (by decide))
      (alu_add_lt (by omega)))
  -- subtracting ten first changes neither the last digit nor, up to the `+ 1`, the rest
  rw [← Nat.mod_eq_sub_mod h10, ← Nat.div_eq_sub_div (by decide) h10] at hr11
  have j12 := jump_halt (m := m11) (hwi.get 12 rfl) (hwi.get 13 rfl)
    (ev_imm_lt (hp.addr_lt off_write_int 20 (by decide)))
  have sm := (sm8.trans0 sm10).trans0 sm11
  obtain ⟨m12, r1', hpush, hr12, hbytes, hsame12⟩ :=
    push_loop p B hp H m11 F (F - p.w) (by omega) (Nat.lt_of_le_of_lt (Nat.sub_le _ _) hFM)
      (Nat.le_sub_of_add_le hroom) (sm.1 ▸ Nat.le_trans (Nat.sub_le _ _) hFsz) hr11
  obtain ⟨m', hfin, hsame'⟩ := wi_finish p B hp m12 F ra r1' (digits H).length (digits H) (digits_pos H)
    (digits_len_lt_half hM (by omega)) hroom h7 hFM (by rw [hsame12.1, sm.1]; exact hFsz) hr12 hbytes
    (hsame12.ra h6 (Nat.le_refl _) (sm.ra h6 (Nat.zero_le _) hra))
  exact ⟨m', x8.trans (x9.trans (x11.trans (j12.trans (hpush.trans hfin)))),
    ((sm.of_zero _ _).trans hsame12 (Nat.le_refl _) (Nat.le_refl _)).trans (hsame'.of_zero _ _)
      (Nat.le_refl _) (Nat.le_refl _)⟩

end HidVerif.Sphinx
