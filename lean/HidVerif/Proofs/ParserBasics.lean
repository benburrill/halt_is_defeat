import HidVerif.Hid.Parser
/-!
# The parser combinators pointwise

`P α` is a function on token lists, so what a combinator or a token parser does is an equation between results.
`psDataTypeOpt`, `psExpr0`, `psPlainStmt` and `psStmt` try one construct after another from the same position;
they are shown equal to chains of `alt`, for which a property of parsers needs one rule.  `psExpr`, `psBlock` and
`psProgram` match on results in other shapes (a second parse from the start after `??`, errors at the starting
position, accumulators); the proofs about them take those matches apart directly.
-/
namespace HidVerif.Hid.Parse
open HidVerif.Hid.Lex HidVerif.Gen

variable {α β : Type}

theorem bind_eq (p : P α) (g : α → P β) (ts : List Lexeme) :
    (p >>= g) ts = match p ts with | .val a mid => g a mid | .fail => .fail | .err e => .err e := rfl

theorem opt_eq (p : P α) (ts : List Lexeme) :
    opt p ts = match p ts with | .val a rest => .val (some a) rest | .fail => .val none ts | .err e => .err e := rfl

theorem expect_eq (en : Ending) (p : P α) (ts : List Lexeme) :
    expect en p ts = match p ts with | .fail => .err (.parser (herePos en ts)) | r => r := rfl

theorem opt_none {p : P α} {ts rest : List Lexeme} (h : opt p ts = .val none rest) : p ts = .fail := by
  rw [opt_eq] at h
  cases hp : p ts <;> rw [hp] at h <;> first | rfl | cases h

/-- "try `p`; on success continue with `k`, on failure go on with `q` from the same place" — the shape of the
alternatives the functions written with explicit matches go through -/
def alt (p : P α) (k : α → P β) (q : P β) : P β := fun ts =>
  match (opt p) ts with
  | .err e => .err e
  | .fail => .fail
  | .val (some a) rest => k a rest
  | .val none _ => q ts

theorem alt_eq (p : P α) (k : α → P β) (q : P β) (ts : List Lexeme) :
    alt p k q ts = match p ts with | .val a rest => k a rest | .fail => q ts | .err e => .err e := by
  unfold alt opt
  cases p ts <;> rfl

theorem opt_bind (p : P α) (g : Option α → P β) : opt p >>= g = alt p (fun a => g (some a)) (g none) := by
  funext ts
  rw [bind_eq, opt_eq, alt_eq]
  cases p ts <;> rfl

theorem bind_eq_alt (p : P α) (g : α → P β) : p >>= g = alt p g fail := by
  funext ts
  rw [bind_eq, alt_eq]
  cases p ts <;> rfl

/-- class an operator table assigns to a token name -/
def opMatch (ops : List (String × String)) (n : String) : Option String :=
  (ops.find? (fun (t, _) => "OpToken." ++ t == n)).map (·.2)


/-! ## the token parsers on a list that ends normally (`.eof`) -/
section prim
variable (c : Cursor)

theorem tokenIf_nil {α : Type} (en : Ending) (f : Lexeme → Option α) : tokenIf en f [] = .fail := rfl

theorem tokenIf_cons {α : Type} (f : Lexeme → Option α) (l : Lexeme) (rest : List Lexeme) :
    tokenIf (.eof c) f (l :: rest) = (match f l with | some a => Res.val a rest | none => Res.fail) := by
  unfold tokenIf
  cases h : f l with
  | none => simp [h]
  | some a => cases rest <;> simp [h]

theorem exact_cons (name : String) (l : Lexeme) (rest : List Lexeme) :
    exact (.eof c) name (l :: rest) = if l.tok == .enum name then Res.val l rest else Res.fail := by
  unfold exact; rw [tokenIf_cons]; by_cases h : (l.tok == .enum name) = true <;> simp [h]

theorem opt_exact_cons (name : String) (l : Lexeme) (rest : List Lexeme) :
    opt (exact (.eof c) name) (l :: rest) = if l.tok == .enum name then Res.val (some l) rest else Res.val none (l :: rest) := by
  unfold opt; rw [exact_cons]; by_cases h : (l.tok == .enum name) = true <;> simp [h]

theorem opt_exact_nil (en : Ending) (name : String) : opt (exact en name) [] = Res.val none [] := rfl

theorem opTok_cons (ops : List (String × String)) (l : Lexeme) (rest : List Lexeme) :
    opTok (.eof c) ops (l :: rest) =
      (match l.tok with
       | .enum n => (match opMatch ops n with | some cls => Res.val (cls, l) rest | none => Res.fail)
       | _ => Res.fail) := by
  unfold opTok; rw [tokenIf_cons]
  cases h : l.tok <;> simp only [opMatch]
  rename_i n
  cases ops.find? (fun x => "OpToken." ++ x.1 == n) <;> rfl

theorem psIdent_cons (allowed : Flavor → Bool) (x : Lexeme) (rest : List Lexeme) (n : List CP) (fl : Flavor)
    (hx : x.tok = .ident n fl) :
    psIdent (.eof c) allowed (x :: rest) = if allowed fl then .val (n, fl, x) rest else .err (.parser x.start) := by
  simp only [psIdent, bind_eq, tokenIf_cons, hx]
  split <;> rfl

end prim

theorem mem_levels {L : Nat} (h4 : 4 ≤ L) (h8 : L ≤ 8) : L ∈ [4, 5, 6, 7, 8] := by
  simp only [List.mem_cons, List.not_mem_nil, or_false]; omega

/-- contexts that can occur (closed under the context expressions of the grammar: `C06.reachable_closed`) -/
def reachableCtx : List Nat := [0, 1, 3, 5, 13, 16, 17, 19, 21, 29]

/-! ## the functions that try one construct after another -/
theorem psDataTypeOpt_eq (en : Ending) :
    psDataTypeOpt en = alt (dataTypeTok en) (fun x => if x.1 == .empty then pure none else pure (some x.1)) (pure none) := by
  funext ts
  rw [alt_eq]
  unfold psDataTypeOpt
  cases dataTypeTok en ts with
  | val a rest => obtain ⟨t, l⟩ := a; dsimp only; split <;> rfl
  | fail => rfl
  | err e => rfl

/-- `ps_expr0`: parenthesised expression, literal, array literal, call, variable — in this order -/
theorem psExpr0_eq (en : Ending) (f ctx : Nat) : psExpr0 en (f + 1) ctx =
    alt (exact en "BracToken.LPAREN")
      (fun _ => do
        let e ← expect en (psExpr en f ctx)
        let _ ← expect en (exact en "BracToken.RPAREN")
        pure e)
    (alt (tokenIf en (fun l => match l.tok with
        | .int v => some (PExpr.int v) | .chr b => some (.char b) | .str bs => some (.str bs)
        | .enum "BoolToken.TRUE" => some (.bool true) | .enum "BoolToken.FALSE" => some (.bool false)
        | _ => none)) (fun lit => pure lit)
    (alt (exact en "BracToken.LSQUARE")
      (fun _ => do
        let items ← commaList en f ctx
        let _ ← expect en (exact en "BracToken.RSQUARE")
        pure (PExpr.arrlit items))
    (alt (psFuncCall en f ctx) (fun c => pure c)
      (do
        let (n, _, _) ← psIdent en onlyPlain
        pure (PExpr.var n))))) := by
  funext ts
  rw [psExpr0]
  unfold alt
  dsimp only
  generalize opt (exact en "BracToken.LPAREN") ts = r1
  generalize opt (tokenIf en _) ts = r2
  generalize opt (exact en "BracToken.LSQUARE") ts = r3
  generalize opt (psFuncCall en f ctx) ts = r4
  rcases r1 with ⟨_ | _, _⟩ | _ | _ <;> try rfl
  rcases r2 with ⟨_ | _, _⟩ | _ | _ <;> try rfl
  rcases r3 with ⟨_ | _, _⟩ | _ | _ <;> try rfl
  rcases r4 with ⟨_ | _, _⟩ | _ | _ <;> rfl

theorem psPlainStmt_eq (en : Ending) (f ctx : Nat) (allowDecl : Bool) : psPlainStmt en f ctx allowDecl =
    alt (psAssignment en f ctx) (fun s => pure s)
    (alt (psExpr en f ctx) (fun e => pure (.expr e))
      (if allowDecl then psVdecl en f ctx else fail)) := by
  funext ts
  unfold psPlainStmt alt
  generalize opt (psAssignment en f ctx) ts = r1
  generalize opt (psExpr en f ctx) ts = r2
  rcases r1 with ⟨_ | _, _⟩ | _ | _ <;> try rfl
  rcases r2 with ⟨_ | _, _⟩ | _ | _ <;> try rfl
  cases allowDecl <;> rfl

/-- `break`, `continue` after the keyword `l`: outside a loop an error at the keyword -/
def loopOnly (ctx : Nat) (s : PStmt) (l : Lexeme) : P PStmt := fun rest =>
  if !has ctx "LOOP" then .err (.parser l.start) else .val s rest

theorem psStmt_eq (en : Ending) (f ctx : Nat) : psStmt en f ctx =
    alt (exact en "StmtToken.BREAK") (loopOnly ctx .brk)
    (alt (exact en "StmtToken.CONTINUE") (loopOnly ctx .cont)
    (alt (exact en "StmtToken.RETURN") (fun _ => do let e ← opt (psExpr en f ctx); pure (PStmt.ret e))
      (psPlainStmt en f ctx true))) := by
  funext ts
  unfold psStmt alt
  generalize opt (exact en "StmtToken.BREAK") ts = r1
  generalize opt (exact en "StmtToken.CONTINUE") ts = r2
  generalize opt (exact en "StmtToken.RETURN") ts = r3
  rcases r1 with ⟨_ | _, _⟩ | _ | _ <;> try rfl
  rcases r2 with ⟨_ | _, _⟩ | _ | _ <;> try rfl
  rcases r3 with ⟨_ | _, _⟩ | _ | _ <;> rfl

end HidVerif.Hid.Parse
