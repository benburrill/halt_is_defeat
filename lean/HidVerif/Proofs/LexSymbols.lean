import HidVerif.Proofs.LexPieces
/-!
# Symbols (C12 iv, and as layout pieces)

The symbol reader returns the longest symbol, whatever the order among symbols of equal length (the source
sorts a `set`, whose iteration order depends on the hash seed); facts decided over the regenerated symbol
table; a symbol is read in front of anything of which no longer symbol is a prefix (maximal munch).
-/
namespace HidVerif.Hid.Lex
open HidVerif.Gen

theorem cps_length (s : String) : (cps s).length = s.length := by simp [cps, String.length_toList]

theorem cps_inj {a b : String} (h : cps a = cps b) : a = b :=
  String.toList_inj.mp ((List.map_inj_right fun _ _ e => Char.toNat_inj.mp e).1 h)

theorem isPrefix_eq_of_length_eq {a b l : List CP} (ha : isPrefix a l = true) (hb : isPrefix b l = true)
    (hlen : a.length = b.length) : a = b := by
  simp only [isPrefix, beq_iff_eq] at ha hb
  rw [← ha, ← hb, hlen]

theorem find_longest {α : Type} (len : α → Nat) (p : α → Bool) :
    ∀ (l : List α), l.Pairwise (fun a b => len a ≥ len b) → ∀ s, l.find? p = some s →
      s ∈ l ∧ p s = true ∧ ∀ t ∈ l, p t = true → len t ≤ len s := by
  intro l
  induction l with
  | nil => intro _ s h; simp at h
  | cons a l ih =>
    intro hs s h
    rw [List.pairwise_cons] at hs
    by_cases hp : p a = true
    · simp [List.find?, hp] at h; subst h
      refine ⟨by simp, hp, ?_⟩
      intro t ht _
      rcases List.mem_cons.1 ht with rfl | ht'
      · exact Nat.le_refl _
      · exact hs.1 t ht'
    · simp only [List.find?, hp] at h
      obtain ⟨hm, hps, hmax⟩ := ih hs.2 s h
      refine ⟨List.mem_cons_of_mem _ hm, hps, ?_⟩
      intro t ht hpt
      rcases List.mem_cons.1 ht with rfl | ht'
      · exact absurd hpt hp
      · exact hmax t ht' hpt

/-- **order independence**: any two lists with the same elements, both sorted by decreasing
length, give the same answer for every input -/
theorem find_prefix_order_irrelevant (l₁ l₂ : List (List CP)) (rest : List CP)
    (hmem : ∀ s, s ∈ l₁ ↔ s ∈ l₂)
    (h₁ : l₁.Pairwise (fun a b => a.length ≥ b.length)) (h₂ : l₂.Pairwise (fun a b => a.length ≥ b.length)) :
    l₁.find? (fun s => isPrefix s rest) = l₂.find? (fun s => isPrefix s rest) := by
  cases e₁ : l₁.find? (fun s => isPrefix s rest) with
  | none =>
    cases e₂ : l₂.find? (fun s => isPrefix s rest) with
    | none => rfl
    | some t =>
      obtain ⟨hm, hp, _⟩ := find_longest List.length _ l₂ h₂ t e₂
      have := List.find?_eq_none.1 e₁ t ((hmem t).2 hm)
      simp [hp] at this
  | some s =>
    obtain ⟨hm, hp, hmax⟩ := find_longest List.length _ l₁ h₁ s e₁
    cases e₂ : l₂.find? (fun s => isPrefix s rest) with
    | none =>
      have := List.find?_eq_none.1 e₂ s ((hmem s).1 hm)
      simp [hp] at this
    | some t =>
      obtain ⟨hm', hp', hmax'⟩ := find_longest List.length _ l₂ h₂ t e₂
      have h1 := hmax t ((hmem t).2 hm') hp'
      have h2 := hmax' s ((hmem s).1 hm) hp
      have : s = t := isPrefix_eq_of_length_eq hp hp' (by omega)
      rw [this]

theorem symbolTokens_sorted : (symbolTokens.map cps).Pairwise (fun a b => a.length ≥ b.length) := by
  decide +kernel

/-- what `read_symbol_token` computes: the longest symbol that is a prefix of the input -/
theorem readSymbol_longest (rest : List CP) (s : List CP)
    (h : (symbolTokens.map cps).find? (fun s => isPrefix s rest) = some s) :
    s ∈ symbolTokens.map cps ∧ isPrefix s rest = true ∧
    ∀ t ∈ symbolTokens.map cps, isPrefix t rest = true → t.length ≤ s.length :=
  find_longest List.length _ _ symbolTokens_sorted s h

theorem symbols_no_space : ∀ s ∈ symbolTokens, ∀ c ∈ cps s, isSpace c = false := by decide +kernel

theorem symbols_shape : ∀ s ∈ symbolTokens, cps s ≠ [] ∧ (cps s).length ≤ 2 ∧ ∀ b ∈ (cps s)[1]?, b = 61 ∨ b = 63 := by
  decide +kernel

theorem symbols_head : ∀ s ∈ symbolTokens, ∀ c : Nat, c ∈ (cps s).head? →
    isIdStart c = false ∧ (c < 48 ∨ 57 < c ∧ c < 128) ∧ c ≠ 34 ∧ c ≠ 39 ∧ c ≠ 64 ∧ (c = 33 → cps s = [33, 61]) := by
  decide +kernel

theorem symbols_cases (s : String) (hs : s ∈ symbolTokens) :
    (∃ a, cps s = [a]) ∨ ∃ a b, cps s = [a, b] ∧ (b = 61 ∨ b = 63) := by
  obtain ⟨hne, hle, hsec⟩ := symbols_shape s hs
  match h : cps s with
  | [] => exact absurd h hne
  | [a] => exact Or.inl ⟨a, rfl⟩
  | [a, b] => exact Or.inr ⟨a, b, rfl, hsec b (by rw [h]; rfl)⟩
  | _ :: _ :: _ :: _ => rw [h] at hle; exact absurd hle (by simp)

theorem symbols_noComment (s : String) (hs : s ∈ symbolTokens) (r : Line) : cps s ≠ 47 :: 47 :: r := fun h =>
  absurd ((symbols_shape s hs).2.2 47 (by rw [h]; rfl)) (by decide)

theorem isPrefix_cons (d c : CP) (p l : Line) : isPrefix (d :: p) (c :: l) = (c == d && isPrefix p l) := by
  simp [isPrefix]

theorem readSymbol_none_of_prefix {l : Line} (h : ∀ s ∈ symbolTokens, isPrefix (cps s) l = false) : readSymbol l = none := by
  unfold readSymbol
  rw [List.find?_eq_none.2 (fun s hs => by simp [h s hs])]
  rfl

theorem readSymbol_none_of_head (c : CP) (l : Line) (h : ∀ s ∈ symbolTokens, (cps s).head? ≠ some c) : readSymbol (c :: l) = none :=
  readSymbol_none_of_prefix fun s hs => by
    have hc := h s hs
    cases hcs : cps s with
    | nil => exact absurd hcs (symbols_shape s hs).1
    | cons d r =>
      rw [hcs] at hc
      rw [isPrefix_cons, beq_false_of_ne (fun e => hc (by rw [e]; rfl)), Bool.false_and]

theorem isPrefix_short (p t rest : Line) (h : p.length ≤ t.length) : isPrefix p (t ++ rest) = isPrefix p t := by
  unfold isPrefix
  rw [List.take_append_of_le_length h]

theorem isPrefix_before_space (pfx t rest : Line) (hp : ∀ c ∈ pfx, isSpace c = false) (hr : StartsSpace rest) :
    isPrefix pfx (t ++ rest) = (decide (pfx.length ≤ t.length) && isPrefix pfx t) := by
  by_cases hle : pfx.length ≤ t.length
  · simp only [hle, decide_true, Bool.true_and]
    exact isPrefix_short _ _ _ hle
  · simp only [hle, decide_false, Bool.false_and]
    unfold isPrefix
    rcases hr with rfl | ⟨c, r, rfl, hc⟩
    · simp only [List.append_nil]
      have : (t.take pfx.length).length < pfx.length := by simp; omega
      exact beq_false_of_ne (fun h => by rw [h] at this; omega)
    · -- the white-space character would have to be part of the symbol
      refine beq_false_of_ne (fun h => ?_)
      have hmem : c ∈ (t ++ c :: r).take pfx.length := by
        rw [List.take_append, List.mem_append]
        right
        obtain ⟨k, hk⟩ : ∃ k, pfx.length - t.length = k + 1 := ⟨pfx.length - t.length - 1, by omega⟩
        rw [hk]; simp
      rw [h] at hmem
      exact absurd hc (by rw [hp c hmem]; decide)

/-- maximal munch -/
theorem readSymbol_maximal (s : String) (hs : s ∈ symbolTokens) (rest : Line)
    (hmax : ∀ s' ∈ symbolTokens, (cps s).length < (cps s').length → isPrefix (cps s') (cps s ++ rest) = false) :
    readSymbol (cps s ++ rest) = some (.enum (enumName s), (cps s).length) := by
  have hself : isPrefix (cps s) (cps s ++ rest) = true := by simp [isPrefix]
  unfold readSymbol
  cases hf : symbolTokens.find? (fun s' => isPrefix (cps s') (cps s ++ rest)) with
  | none => exact absurd hself (by simpa using List.find?_eq_none.1 hf s hs)
  | some s0 =>
    -- the first match is a longest one, and by `hmax` not longer than `s`: it is `s`
    have hsorted : symbolTokens.Pairwise (fun a b => (cps a).length ≥ (cps b).length) :=
      (List.pairwise_map (f := cps) (R := fun a b : Line => a.length ≥ b.length)).1 symbolTokens_sorted
    obtain ⟨hm, hp, hlong⟩ := find_longest (fun s => (cps s).length) _ symbolTokens hsorted s0 hf
    have hle := hlong s hs hself
    have hge : ¬ (cps s).length < (cps s0).length := fun hlt => by rw [hmax s0 hm hlt] at hp; cases hp
    obtain rfl : s0 = s := cps_inj (isPrefix_eq_of_length_eq hp hself (by omega))
    simp only [Option.map_some, cps_length]

theorem readToken_of_symbol {l : Line} {t : Tok} {n : Nat} (h : readSymbol l = some (t, n)) : readToken l = .ok t n := by
  unfold readToken
  rw [h]

theorem readsAs_symbol (s : String) (hs : s ∈ symbolTokens) (rest : Line)
    (hmax : ∀ s' ∈ symbolTokens, (cps s).length < (cps s').length → isPrefix (cps s') (cps s ++ rest) = false)
    (hnc : ∀ r, cps s ++ rest ≠ 47 :: 47 :: r) : ReadsAs (cps s) (.enum (enumName s)) rest :=
  ⟨(symbols_shape s hs).1, fun c r h => symbols_no_space s hs c (by rw [h]; exact List.mem_cons_self), hnc,
    readToken_of_symbol (readSymbol_maximal s hs rest hmax)⟩

theorem selfDelim_symbol (s : String) (hs : s ∈ symbolTokens) : SelfDelim (cps s) (.enum (enumName s)) :=
  .of_readsAs fun rest hr => readsAs_symbol s hs rest
    (fun s' hs' hlt => by
      rw [isPrefix_before_space _ _ _ (symbols_no_space s' hs') hr, decide_eq_false (by omega), Bool.false_and])
    (noComment_append (symbols_shape s hs).1 (symbols_noComment s hs) hr)

theorem readsAs_symbol_next (s : String) (hs : s ∈ symbolTokens) (c : CP) (r : Line) (h1 : c ≠ 61) (h2 : c ≠ 63)
    (h3 : cps s = [47] → c ≠ 47) : ReadsAs (cps s) (.enum (enumName s)) (c :: r) := by
  refine readsAs_symbol s hs _ (fun s' hs' hlt => ?_) (fun r' heq => ?_)
  · -- a longer symbol has two characters, the second of them `=` or `?`
    rcases symbols_cases s hs with ⟨a, ha⟩ | ⟨a, b, hab, _⟩ <;> rcases symbols_cases s' hs' with ⟨x, hx⟩ | ⟨x, y, hxy, hy⟩
    · rw [ha, hx] at hlt; exact absurd hlt (Nat.lt_irrefl _)
    · have hcy : c ≠ y := fun e => by
        rcases hy with h | h
        · exact h1 (e.trans h)
        · exact h2 (e.trans h)
      rw [ha, hxy, List.singleton_append, isPrefix_cons, isPrefix_cons, beq_false_of_ne hcy, Bool.false_and, Bool.and_false]
    · rw [hab, hx] at hlt; exact absurd hlt (Nat.lt_asymm (Nat.lt_succ_self 1))
    · rw [hab, hxy] at hlt; exact absurd hlt (Nat.lt_irrefl _)
  · rcases symbols_cases s hs with ⟨a, ha⟩ | ⟨a, b, hab, hb⟩
    · rw [ha] at heq
      injection heq with h4 h5
      exact h3 (by rw [ha, h4]) (List.cons.inj h5).1
    · rw [hab] at heq
      injection heq with _ h5
      rw [(List.cons.inj h5).1] at hb
      exact absurd hb (by decide)

end HidVerif.Hid.Lex
