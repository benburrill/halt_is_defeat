import HidVerif.Proofs.CoreCond
import HidVerif.Proofs.CoreSem
import HidVerif.Proofs.DigitsBound
/-!
# Core compiler proofs: the pieces of a statement and the invariant of a statement list

The call `write(int)`, and the relation
between the machine state and the source environment (`SInv`) that `cS_ok` (`Proofs/CoreExec`)
maintains, with what holds where a list can end (`Post`).
-/
namespace HidVerif.Core
open HidVerif HidVerif.PSys HidVerif.Sphinx HidVerif.Gen

theorem look_cons_same (Γ : Gam) (x : String) (a : Nat) : look ((x, a) :: Γ) x = a := by
  simp [look, List.lookup]

theorem look_cons_other (Γ : Gam) (x y : String) (a : Nat) (h : y ≠ x) : look ((x, a) :: Γ) y = look Γ y := by
  simp only [look, List.lookup]
  have : (y == x) = false := by simpa using h
  rw [this]

theorem upd_same (env : Env) (x : String) (v : Nat) : upd env x v x = v := by simp [upd]
theorem upd_other (env : Env) (x y : String) (v : Nat) (h : y ≠ x) : upd env x v y = env y := by simp [upd, h]

theorem contains_cons_fst (Γ : Gam) (x y : String) (a : Nat) :
    (((x, a) :: Γ).map Prod.fst).contains y = (y == x || (Γ.map Prod.fst).contains y) := by
  simp

theorem contains_of_cons_ne {x y : String} {xs : List String} (h : (x :: xs).contains y = true) (hyx : y ≠ x) :
    xs.contains y = true := by
  simp only [List.contains_cons] at h
  have : (y == x) = false := by simpa using hyx
  simpa [this] using h

section
variable {p : Prog} {ck : Bool} {B : Nat} {dA : Nat}

theorem wiExcess_ge (w : Nat) (k : Nat) (hk : k ≤ (8 * w - 1) * 30103 / 100000 + 1) :
    k ≤ w + wiExcess w := by
  unfold wiExcess; omega

/-- `write_int_spec` in the terms of the frame its caller set up -/
theorem write_int_call (lib : Placed p B) {m : Mem} {A D v ra : Nat} (fr : Fr p m (A + p.w + p.w) D) (hv : v < 256 ^ p.w)
    (hD : 2 * p.w + wiExcess p.w ≤ D)
    (harg : m.readLE A p.w = v) (hra : m.readLE (A + p.w) p.w = ra) :
    ∃ m', Reach (sphinx p) ⟨B + off_write_int, m⟩ (outs (decimalW (256 ^ p.w) v)) ⟨ra, m'⟩ ∧
      m'.size = m.size ∧ m'.readLE p.w p.w = A + p.w + p.w ∧ m'.readLE 0 p.w = 5 * p.w ∧
      ∀ x, A + p.w ≤ x → m'.rd x = m.rd x := by
  have hw := lib.hw
  have hk := wiExcess_ge p.w _ (digits_absW_le p.w (Nat.le_of_succ_le hw) v hv)
  have hb : 5 * p.w ≤ A ∧ 2 * p.w ≤ A + p.w + p.w - p.w - (digits (absW (256 ^ p.w) v)).length ∧
      5 * p.w + (digits (absW (256 ^ p.w) v)).length + p.w ≤ A + p.w + p.w ∧ 7 * p.w ≤ A + p.w + p.w ∧
      A + p.w + p.w - 2 * p.w = A := by have := fr.room; omega
  clear hk
  obtain ⟨m', r, hsz, hsame⟩ := write_int_spec p B lib m _ v ra _ _ _ hv fr.lt fr.top hb.2.2.1 hb.2.2.2.1
    ⟨Nat.le_trans (Nat.le_trans hb.1 (Nat.le_add_right _ _)) (Nat.le_trans (Nat.le_add_right _ _) fr.top), fr.fp, rfl, rfl, rfl⟩
    (by rw [hb.2.2.2.2]; exact harg) (by rw [Nat.add_sub_cancel]; exact hra)
  refine ⟨m', r, hsz, ?_, ?_, fun x hx => hsame x (Or.inr (Nat.le_trans (Nat.le_trans hb.1 (Nat.le_add_right _ _)) hx))
    (Or.inr (by rw [Nat.add_sub_cancel]; exact hx))⟩
  · rw [← fr.fp]; exact Mem.readLE_congr _ _ _ _ (fun x h1 h2 =>
      hsame x (Or.inl (Nat.two_mul p.w ▸ h2)) (Or.inl (Nat.lt_of_lt_of_le (Nat.two_mul p.w ▸ h2) hb.2.1)))
  · have h02 : 0 + p.w ≤ 2 * p.w := Nat.le_trans (Nat.le_of_eq (Nat.zero_add _)) (Nat.le_mul_of_pos_left _ (by decide))
    rw [← fr.ap]; exact Mem.readLE_congr _ _ _ _ (fun x h1 h2 =>
      hsame x (Or.inl (Nat.lt_of_lt_of_le h2 h02)) (Or.inl (Nat.lt_of_lt_of_le h2 (Nat.le_trans h02 hb.2.1))))

/-- the call `write(e)` with an `int` argument: pushes the return address and the argument,
moves the frame pointer, runs `write_int` (`write_int_spec`) and restores the frame pointer -/
theorem cWrite_ok (lib : Placed p B) (Γ : Gam) (env : Env) (F D : Nat) (e : E) (pc o : Nat) (m : Mem)
    (hpl : PlacedAt p pc (cWrite (cxOf p ck B dA) Γ pc o e))
    (hB : pc + (cWrite (cxOf p ck B dA) Γ pc o e).length ≤ B)
    (fr : Fr p m F D) (hvars : VarsOK p.w Γ env m F o)
    (hb : boundE (Γ.map Prod.fst) e = true) (hpk : pkWrite p.w o e ≤ D) (ho : p.w ≤ o) :
    (∀ v, evalE (256 ^ p.w) (8 * p.w) env e = some v →
      ∃ m', Reach (sphinx p) ⟨pc, m⟩ (outs (decimalW (256 ^ p.w) v))
          ⟨pc + (cWrite (cxOf p ck B dA) Γ pc o e).length, m'⟩ ∧ Keep p.w m m' (F - o)) ∧
    (evalE (256 ^ p.w) (8 * p.w) env e = none → ck = true →
      ∃ m', Reach (sphinx p) ⟨pc, m⟩ [] ⟨B + off_division_by_zero, m'⟩) := by
  have hw := lib.hw
  have hpkP : pkPush p.w (o + p.w) e ≤ D := Nat.le_trans (Nat.le_max_left _ _) hpk
  have hpkX : o + 2 * p.w + wiExcess p.w ≤ D := Nat.le_trans (Nat.le_max_right _ _) hpk
  -- `A` is the address of the argument word; the return address lies behind it, then the callee's frame pointer
  have hoD : o + p.w + p.w ≤ D := by rw [Nat.add_assoc, ← Nat.two_mul]; exact Nat.le_trans (Nat.le_add_right _ _) hpkX
  obtain ⟨A, D', hA, hD, hA1, hA5, _, eF⟩ := callee_frame (o := o + p.w) fr.room hoD
  have hG : A + p.w + p.w + o = F := by rw [← hA]; ac_rfl
  have hD' : D' + p.w + o = D := by rw [← hD]; ac_rfl
  have hA2 : 2 * p.w ≤ A := Nat.le_trans (Nat.mul_le_mul_right _ (by decide)) hA5
  rw [cWrite_len] at hB ⊢
  unfold cWrite at hpl
  obtain ⟨hpl12, hpl3⟩ := hpl.append
  obtain ⟨hpl1, hpl2⟩ := hpl12.append
  have hcx : (cxOf p ck B dA).checked = ck := rfl
  simp only [List.length_append, List.length_cons, List.length_nil, Nat.zero_add, pushE_len, ← Nat.add_assoc] at hpl1 hpl2 hpl3
  simp only [lenWrite] at hB ⊢
  generalize hn : lenPush ck e = nP at *
  have hB3 : pc + 1 + nP + 3 + 1 ≤ B := Nat.le_trans (Nat.le_of_eq (by simp only [Nat.add_assoc])) hB
  have hend : pc + 1 + nP + 3 < 256 ^ p.w := code_lt lib (Nat.le_trans (Nat.le_add_right _ 1) hB3)
  obtain ⟨s0, k0, hra1⟩ := call_ra hw fr hA1 ho (Nat.le_trans (Nat.le_add_right _ _) hoD) hend hpl1
  have e0 : F - o = A + p.w + p.w := by rw [← hG]; exact Nat.add_sub_cancel ..
  rw [e0]
  have hp := pushE_ok (ck := ck) (dA := dA) lib Γ env F D e (pc + 1) (o + p.w) _ hpl2
    (by rw [pushE_len, hcx, hn]; exact Nat.le_trans (Nat.le_trans (Nat.le_add_right _ 3) (Nat.le_add_right _ 1)) hB3) (fr.keep k0) (hvars.keep k0 (Nat.le_of_eq e0.symm) (Nat.le_add_right _ _)) hb hpkP
    (Nat.le_add_left _ _)
  rw [pushE_len, hcx, hn, (eF ()).1, (eF ()).2.1] at hp
  clear e0
  refine ⟨fun v hv => ?_, fun hn' hck => ?_⟩
  · obtain ⟨m2, r2, k2, harg⟩ := hp.1 v hv
    have fr2 := (fr.keep k0).keep k2
    obtain ⟨c0, h⟩ := placed_cons hpl3; obtain ⟨c1, h⟩ := placed_cons h; obtain ⟨c2, h⟩ := placed_cons h
    have c3 := placed_one h
    have hvM : v < 256 ^ p.w := by rw [← harg]; exact Mem.readLE_lt _ _ _
    obtain ⟨r3, fr3, hrd3⟩ := call_jump (D' := D' + p.w) hw fr2 hG hD' ho (t := B + off_write_int)
      (lib.lt _ (by decide)) c0 c1 c2
    obtain ⟨m4, rcall, hsz4, hfp4, hap4, hhi4⟩ := write_int_call lib fr3 hvM (Nat.le_of_add_le_add_right (b := o) (hD' ▸ Nat.le_trans (Nat.le_of_eq (Nat.add_comm _ _)) (Nat.add_assoc _ _ _ ▸ hpkX)))
      ((Mem.readLE_congr _ _ _ _ (fun x h _ => hrd3 x (Nat.le_trans hA2 h))).trans harg)
      ((Mem.readLE_congr _ _ _ _ (fun x h _ => hrd3 x (Nat.le_trans hA2 (Nat.le_trans (Nat.le_add_right _ _) h)))).trans ((k2.read _ _ (Nat.le_refl _)).trans hra1))
    obtain ⟨rret, kret⟩ := call_leave (lo := A + p.w) hw fr2 hG (Nat.le_trans hA2 (Nat.le_add_right _ _)) c3
      (hsz4.trans (by simp)) hfp4 hap4 (fun x hx => by rw [hhi4 x hx, hrd3 x (Nat.le_trans hA2 (Nat.le_trans (Nat.le_add_right _ _) hx))])
    refine ⟨_, ?_, (k0.trans' (k2.mono (Nat.le_add_right _ _))).trans' (kret.mono (Nat.le_add_right _ _))⟩
    have := s0.trans (r2.trans (r3.trans (rcall.trans rret)))
    simpa [evl, Nat.add_assoc] using this
  · obtain ⟨m', rd⟩ := hp.2 hn' hck
    exact ⟨m', by simpa [evl] using s0.trans rd⟩

/-- distinct variables of `Γ` have disjoint frame words -/
def Disj (w : Nat) (Γ : Gam) : Prop :=
  ∀ x y, (Γ.map Prod.fst).contains x = true → (Γ.map Prod.fst).contains y = true → x ≠ y →
    look Γ x + w ≤ look Γ y ∨ look Γ y + w ≤ look Γ x

/-- what the code being run may assume of the words `try_fp` and `defeat` behind the entry frame -/
inductive Md
  /-- nothing, and the two words are not touched -/
  | plain
  /-- the word `defeat` (at address `a`) holds `v`, where a defeat takes control: bodies of `try/stop` and what
  runs inside them, defeat functions included -/
  | stop (a v : Nat)
  /-- the level of the you function: `try/stop` blocks rewrite `try_fp` and `defeat`; between them, in programs
  that have these words, `defeat` (at `w.1`) holds the address `w.2` of a `halt` -/
  | you (w : Option (Nat × Nat))

def Md.word : Md → Option (Nat × Nat)
  | .stop a v => some (a, v)
  | .you w => w
  | .plain => none

def Md.isYou : Md → Bool
  | .you _ => true
  | _ => false

/-- the lowest address at and above which a statement list leaves the memory alone -/
def Md.kb : Md → (F w : Nat) → Nat
  | .you _, F, w => F + 2 * w
  | _, F, _ => F

theorem Md.kb_ge (md : Md) (F w : Nat) : F ≤ md.kb F w := by cases md <;> simp [Md.kb]

/-- the word `defeat`, where the situation knows it (`Md.word`), lies behind the frame and holds the known value -/
def DReg (p : Prog) (md : Md) (m : Mem) (F : Nat) : Prop :=
  ∀ a v, md.word = some (a, v) → F + p.w ≤ a ∧ a + p.w ≤ m.size ∧ a + p.w < 256 ^ p.w ∧ m.readLE a p.w = v ∧ v < 256 ^ p.w

theorem DReg.word {md md' : Md} {m : Mem} {F : Nat} (h : DReg p md m F) (e : md'.word = md.word) : DReg p md' m F :=
  fun a v e' => h a v (by rw [← e]; exact e')

theorem DReg.none {md : Md} {m : Mem} {F : Nat} (e : md.word = none) : DReg p md m F :=
  fun a v e' => by rw [e] at e'; cases e'

theorem DReg.keep {md : Md} {m m' : Mem} {F a : Nat} (h : DReg p md m F) (k : Keep p.w m m' a) (ha : a ≤ F) :
    DReg p md m' F := by
  intro x v e
  obtain ⟨h1, h2, h3, h4, h5⟩ := h x v e
  exact ⟨h1, by rw [k.size]; exact h2, h3, by rw [k.read _ _ (Nat.le_trans ha (Nat.le_trans (Nat.le_add_right _ _) h1))]; exact h4, h5⟩

theorem DReg.dword {a v : Nat} {m : Mem} {F : Nat} (h : DReg p (.stop a v) m F) : DWord p a v m F := by
  obtain ⟨h1, h2, h3, h4, h5⟩ := h a v rfl
  exact ⟨by omega, h2, h3, h4, h5⟩

/-- `Keep` without the frame pointer: what is known when a defeat call inside a callee has taken the machine to
the handler (the callee's `fp` is still in place) -/
structure KeepD (w : Nat) (m m' : Mem) (a : Nat) : Prop where
  size : m'.size = m.size
  ap : m'.readLE 0 w = m.readLE 0 w
  hi : ∀ x, a ≤ x → m'.rd x = m.rd x

theorem Keep.toD {w : Nat} {m m' : Mem} {a : Nat} (k : Keep w m m' a) : KeepD w m m' a := ⟨k.size, k.ap, k.hi⟩

theorem KeepD.mono {w : Nat} {m m' : Mem} {a b : Nat} (h : KeepD w m m' a) (hab : a ≤ b) : KeepD w m m' b :=
  ⟨h.size, h.ap, fun x hx => h.hi x (Nat.le_trans hab hx)⟩

theorem Keep.transD {w : Nat} {m m1 m2 : Mem} {a : Nat} (h1 : Keep w m m1 a) (h2 : KeepD w m1 m2 a) : KeepD w m m2 a :=
  ⟨h2.size.trans h1.size, h2.ap.trans h1.ap, fun x hx => (h2.hi x hx).trans (h1.hi x hx)⟩

theorem KeepD.read {w : Nat} {m m' : Mem} {a : Nat} (h : KeepD w m m' a) (x k : Nat) (hx : a ≤ x) :
    m'.readLE x k = m.readLE x k :=
  Mem.readLE_congr _ _ _ _ (fun y h1 _ => h.hi y (Nat.le_trans hx h1))

variable {md : Md}

/-- the machine state matches the source environment -/
structure SInv (p : Prog) (md : Md) (Γ : Gam) (env : Env) (m : Mem) (F D o ra : Nat) : Prop where
  fr : Fr p m F D
  vars : VarsOK p.w Γ env m F o
  ra : m.readLE (F - p.w) p.w = ra
  dreg : DReg p md m F

theorem SInv.keep {Γ : Gam} {env : Env} {m m' : Mem} {F D o ra : Nat} (h : SInv p md Γ env m F D o ra)
    (k : Keep p.w m m' (F - o)) (ho : p.w ≤ o) : SInv p md Γ env m' F D o ra :=
  ⟨h.fr.keep k, h.vars.keep k (Nat.le_refl _) (Nat.le_refl _), by rw [k.read _ _ (Nat.sub_le_sub_left ho F)]; exact h.ra,
   h.dreg.keep k (Nat.sub_le _ _)⟩

theorem SInv.toMd {md' : Md} {Γ : Gam} {env : Env} {m : Mem} {F D o ra : Nat} (h : SInv p md Γ env m F D o ra)
    (hm : md'.word = none) : SInv p md' Γ env m F D o ra :=
  ⟨h.fr, h.vars, h.ra, DReg.none hm⟩

theorem SInv.reMd {md' : Md} {Γ : Gam} {env : Env} {m : Mem} {F D o ra : Nat} (h : SInv p md Γ env m F D o ra)
    (e : md'.word = md.word) : SInv p md' Γ env m F D o ra :=
  ⟨h.fr, h.vars, h.ra, h.dreg.word e⟩

/-- `SInv` without the frame pointer (see `KeepD`) -/
structure SInvD (p : Prog) (md : Md) (Γ : Gam) (env : Env) (m : Mem) (F D o ra : Nat) : Prop where
  ap : m.readLE 0 p.w = 5 * p.w
  top : F ≤ m.size
  lt : F < 256 ^ p.w
  room : 5 * p.w + D = F
  vars : VarsOK p.w Γ env m F o
  ra : m.readLE (F - p.w) p.w = ra
  dreg : DReg p md m F

theorem SInv.toD {Γ : Gam} {env : Env} {m : Mem} {F D o ra : Nat} (h : SInv p md Γ env m F D o ra) : SInvD p md Γ env m F D o ra :=
  ⟨h.fr.ap, h.fr.top, h.fr.lt, h.fr.room, h.vars, h.ra, h.dreg⟩

/-- the frame word at offset `l` lies above the registers and inside the frame -/
theorem slot_in {F D l w : Nat} (hroom : 5 * w + D = F) (hl : l ≤ D) (hw : w ≤ l) : 5 * w ≤ F - l ∧ F - l + w ≤ F :=
  ⟨Nat.le_sub_of_add_le (hroom ▸ Nat.add_le_add_left hl _), Nat.le_trans (Nat.add_le_add_left hw _)
    (Nat.le_of_eq (Nat.sub_add_cancel (hroom ▸ Nat.le_trans hl (Nat.le_add_left _ _))))⟩

theorem slot_le {F a b w : Nat} (hb : b ≤ F) (h : a + w ≤ b) : F - b + w ≤ F - a :=
  Nat.le_sub_of_add_le (by rw [Nat.add_assoc, Nat.add_comm w a]; exact Nat.le_trans (Nat.add_le_add_left h _) (Nat.le_of_eq (Nat.sub_add_cancel hb)))

theorem SInvD.same {md' : Md} {Γ : Gam} {env : Env} {m m' : Mem} {F D o ra : Nat} (h : SInvD p md Γ env m F D o ra)
    (ho : p.w ≤ o) (hoD : o ≤ D)
    (hsize : m'.size = m.size) (hfp : m'.readLE p.w p.w = F) (hap : m'.readLE 0 p.w = 5 * p.w)
    (hlo : ∀ x, 5 * p.w ≤ x → x < F → m'.rd x = m.rd x) (hd : DReg p md' m' F) : SInv p md' Γ env m' F D o ra := by
  refine ⟨⟨hfp, hap, by rw [hsize]; exact h.top, h.lt, h.room⟩, ?_, ?_, hd⟩
  · intro x hx
    obtain ⟨h1, h2, h3⟩ := h.vars x hx
    have b := slot_in h.room (Nat.le_trans h2 hoD) (Nat.le_trans (Nat.le_mul_of_pos_left _ (by decide)) h1)
    refine ⟨h1, h2, ?_⟩
    rw [← h3]; exact Mem.readLE_congr _ _ _ _ (fun y hy1 hy2 => hlo y (Nat.le_trans b.1 hy1) (Nat.lt_of_lt_of_le hy2 b.2))
  · have b := slot_in h.room (Nat.le_trans ho hoD) (Nat.le_refl _)
    rw [← h.ra]; exact Mem.readLE_congr _ _ _ _ (fun y hy1 hy2 => hlo y (Nat.le_trans b.1 hy1) (Nat.lt_of_lt_of_le hy2 b.2))

theorem SInvD.congr {Γ : Gam} {env : Env} {m m' : Mem} {F D o ra : Nat} (h : SInvD p md Γ env m F D o ra) (ho : p.w ≤ o)
    (hsize : m'.size = m.size) (hap : m'.readLE 0 p.w = 5 * p.w) (hrd : ∀ y, F - o ≤ y → m'.rd y = m.rd y) :
    SInvD p md Γ env m' F D o ra := by
  refine ⟨hap, by rw [hsize]; exact h.top, h.lt, h.room, fun x hx => ?_, ?_, fun a v e => ?_⟩
  · obtain ⟨h1, h2, h3⟩ := h.vars x hx
    exact ⟨h1, h2, by rw [← h3]; exact Mem.readLE_congr _ _ _ _ (fun y hy1 _ => hrd y (Nat.le_trans (Nat.sub_le_sub_left h2 F) hy1))⟩
  · rw [← h.ra]; exact Mem.readLE_congr _ _ _ _ (fun y hy1 _ => hrd y (Nat.le_trans (Nat.sub_le_sub_left ho F) hy1))
  · obtain ⟨h1, h2, h3, h4, h5⟩ := h.dreg a v e
    exact ⟨h1, by rw [hsize]; exact h2, h3, by rw [← h4]; exact Mem.readLE_congr _ _ _ _ (fun y hy1 _ =>
      hrd y (Nat.le_trans (Nat.sub_le _ _) (Nat.le_trans (Nat.le_trans (Nat.le_add_right _ _) h1) hy1))), h5⟩

theorem SInv.same {md' : Md} {Γ : Gam} {env : Env} {m m' : Mem} {F D o ra : Nat} (h : SInv p md Γ env m F D o ra)
    (ho : p.w ≤ o) (hoD : o ≤ D)
    (hsize : m'.size = m.size) (hfp : m'.readLE p.w p.w = F) (hap : m'.readLE 0 p.w = 5 * p.w)
    (hlo : ∀ x, 5 * p.w ≤ x → x < F → m'.rd x = m.rd x) (hd : DReg p md' m' F) : SInv p md' Γ env m' F D o ra :=
  h.toD.same ho hoD hsize hfp hap hlo hd

/-- where control is and what holds after a statement list that started in memory `m0`: in every
case the memory at and above the frame pointer, `fp` and `ap` are what they were (`Keep … F`; at the
level of the you function the words `try_fp` and `defeat` behind the frame are excepted).  A defeat
inside a `try/stop` body leaves the machine at the handler (possibly with the frame pointer of a callee). -/
def Post (p : Prog) (B ra : Nat) (lp : Jt) (md : Md) (Γ : Gam) (env' : Env) (F D o pcEnd : Nat) (m0 : Mem) (res : Res) (st : St) : Prop :=
  match res with
  | .norm => st.pc = pcEnd ∧ SInv p md Γ env' st.mem F D o ra ∧ Keep p.w m0 st.mem (md.kb F p.w)
  | .returned => st.pc = ra ∧ Keep p.w m0 st.mem (md.kb F p.w)
  | .retv v => st.pc = ra ∧ Keep p.w m0 st.mem (md.kb F p.w) ∧ st.mem.readLE (F - p.w) p.w = v
  | .div0 => st.pc = B + off_division_by_zero
  | .ovf => st.pc = B + off_stack_overflow
  | .defeat => ∃ a v, md = .stop a v ∧ st.pc = v ∧ SInvD p md Γ env' st.mem F D o ra ∧ KeepD p.w m0 st.mem (md.kb F p.w)
  | .brk => st.pc = lp.brk ∧ SInv p md Γ env' st.mem F D o ra ∧ Keep p.w m0 st.mem (md.kb F p.w)
  | .cnt => st.pc = lp.cont ∧ SInv p md Γ env' st.mem F D o ra ∧ Keep p.w m0 st.mem (md.kb F p.w)

theorem Post.rebase {B ra : Nat} {lp : Jt} {Γ : Gam} {env' : Env} {F D o e : Nat} {m m1 : Mem} {res : Res} {st : St}
    (k : Keep p.w m m1 (md.kb F p.w)) (h : Post p B ra lp md Γ env' F D o e m1 res st) : Post p B ra lp md Γ env' F D o e m res st := by
  cases res with
  | norm => exact ⟨h.1, h.2.1, k.trans' h.2.2⟩
  | returned => exact ⟨h.1, k.trans' h.2⟩
  | retv v => exact ⟨h.1, k.trans' h.2.1, h.2.2⟩
  | div0 => exact h
  | ovf => exact h
  | defeat => obtain ⟨a, v, h1, h2, h3, h4⟩ := h; exact ⟨a, v, h1, h2, h3, k.transD h4⟩
  | brk => exact ⟨h.1, h.2.1, k.trans' h.2.2⟩
  | cnt => exact ⟨h.1, h.2.1, k.trans' h.2.2⟩

/-- `Post` seen from another scope, end address or pair of loop labels: only the invariant of a state in
which the run goes on, the end address of normal completion and the label actually jumped to matter -/
theorem Post.imp {B ra : Nat} {lp lp' : Jt} {Γ Γ' : Gam} {env' : Env} {F D o o' e e' : Nat} {m : Mem} {res : Res} {st : St}
    (h : Post p B ra lp' md Γ' env' F D o' e' m res st)
    (hI : ∀ m', SInv p md Γ' env' m' F D o' ra → SInv p md Γ env' m' F D o ra)
    (hID : ∀ m', SInvD p md Γ' env' m' F D o' ra → SInvD p md Γ env' m' F D o ra)
    (he : res = .norm → e' = e) (hb : res = .brk → lp'.brk = lp.brk) (hc : res = .cnt → lp'.cont = lp.cont) :
    Post p B ra lp md Γ env' F D o e m res st := by
  cases res with
  | norm => exact ⟨h.1.trans (he rfl), hI _ h.2.1, h.2.2⟩
  | returned => exact h
  | retv v => exact h
  | div0 => exact h
  | ovf => exact h
  | defeat => obtain ⟨a, v, h1, h2, h3, h4⟩ := h; exact ⟨a, v, h1, h2, hID _ h3, h4⟩
  | brk => exact ⟨h.1.trans (hb rfl), hI _ h.2.1, h.2.2⟩
  | cnt => exact ⟨h.1.trans (hc rfl), hI _ h.2.1, h.2.2⟩

theorem Post.ends {B ra : Nat} {lp lp' : Jt} {Γ : Gam} {env' : Env} {F D o e e' : Nat} {m : Mem} {res : Res} {st : St}
    (h : Post p B ra lp' md Γ env' F D o e' m res st)
    (he : res = .norm → e' = e) (hb : res = .brk → lp'.brk = lp.brk) (hc : res = .cnt → lp'.cont = lp.cont) :
    Post p B ra lp md Γ env' F D o e m res st :=
  h.imp (fun _ h => h) (fun _ h => h) he hb hc

theorem Post.of_ne_norm {B ra : Nat} {lp : Jt} {Γ : Gam} {env' : Env} {F D o e1 e2 : Nat} {m : Mem} {res : Res} {st : St}
    (hx : res ≠ .norm) (h : Post p B ra lp md Γ env' F D o e1 m res st) : Post p B ra lp md Γ env' F D o e2 m res st :=
  h.ends (fun hn => absurd hn hx) (fun _ => rfl) (fun _ => rfl)

/-- what holds of a list that leaves `try_fp` and `defeat` alone holds at the level of the you function -/
theorem Post.toYou {B ra : Nat} {lp : Jt} {md1 : Md} {w : Option (Nat × Nat)} {Γ : Gam} {env' : Env} {F D o e : Nat} {m : Mem} {res : Res} {st : St}
    (hkb : md1.kb F p.w = F) (hd : DReg p (.you w) m F) (hres : res ≠ .defeat)
    (h : Post p B ra lp md1 Γ env' F D o e m res st) : Post p B ra lp (.you w) Γ env' F D o e m res st := by
  have hk : ∀ {m m' : Mem}, Keep p.w m m' (md1.kb F p.w) → Keep p.w m m' ((Md.you w).kb F p.w) :=
    fun k => k.mono (by rw [hkb]; simp [Md.kb])
  have hi : ∀ {m' : Mem}, SInv p md1 Γ env' m' F D o ra → Keep p.w m m' (md1.kb F p.w) → SInv p (.you w) Γ env' m' F D o ra :=
    fun h k => ⟨h.fr, h.vars, h.ra, hd.keep k (by rw [hkb]; exact Nat.le_refl _)⟩
  cases res with
  | norm => exact ⟨h.1, hi h.2.1 h.2.2, hk h.2.2⟩
  | returned => exact ⟨h.1, hk h.2⟩
  | retv v => exact ⟨h.1, hk h.2.1, h.2.2⟩
  | div0 => exact h
  | ovf => exact h
  | defeat => exact absurd rfl hres
  | brk => exact ⟨h.1, hi h.2.1 h.2.2, hk h.2.2⟩
  | cnt => exact ⟨h.1, hi h.2.1 h.2.2, hk h.2.2⟩

theorem Keep.kb {m m' : Mem} {F : Nat} (k : Keep p.w m m' F) : Keep p.w m m' (md.kb F p.w) := k.mono (md.kb_ge _ _)

theorem decl_inv {Γ : Gam} {env : Env} {m m1 : Mem} {F D o ra : Nat} (h : SInv p md Γ env m F D o ra)
    (hd : Disj p.w Γ) (x : String) (v : Nat) (k : Keep p.w m m1 (F - o))
    (hval : m1.readLE (F - (o + p.w)) p.w = v) (hx : (Γ.map Prod.fst).contains x = false) (ho : p.w ≤ o) :
    SInv p md ((x, o + p.w) :: Γ) (upd env x v) m1 F D (o + p.w) ra ∧ Disj p.w ((x, o + p.w) :: Γ) := by
  refine ⟨⟨h.fr.keep k, ?_, by rw [k.read _ _ (Nat.sub_le_sub_left ho F)]; exact h.ra, h.dreg.keep k (Nat.sub_le _ _)⟩, ?_⟩
  · intro y hy
    by_cases hyx : y = x
    · subst hyx
      rw [look_cons_same, upd_same]; exact ⟨Nat.two_mul p.w ▸ Nat.add_le_add_right ho _, Nat.le_refl _, hval⟩
    · obtain ⟨h1, h2, h3⟩ := h.vars y (contains_of_cons_ne hy hyx)
      rw [look_cons_other _ _ _ _ hyx, upd_other _ _ _ _ hyx]
      exact ⟨h1, Nat.le_trans h2 (Nat.le_add_right _ _), by rw [k.read _ _ (Nat.sub_le_sub_left h2 F)]; exact h3⟩
  · have below : ∀ z, (Γ.map Prod.fst).contains z = true → look Γ z + p.w ≤ o + p.w := fun z hz =>
      Nat.add_le_add_right (h.vars z hz).2.1 _
    intro y z hy hz hyz
    by_cases hyx : y = x
    · subst hyx
      have hzy : z ≠ y := fun e => hyz e.symm
      rw [look_cons_same, look_cons_other _ _ _ _ hzy]
      exact Or.inr (below z (contains_of_cons_ne hz hzy))
    · rw [look_cons_other _ _ _ _ hyx]
      by_cases hzx : z = x
      · subst hzx
        rw [look_cons_same]
        exact Or.inl (below y (contains_of_cons_ne hy hyx))
      · rw [look_cons_other _ _ _ _ hzx]
        exact hd y z (contains_of_cons_ne hy hyx) (contains_of_cons_ne hz hzx) hyz

theorem decl_backD {Γ : Gam} {env env' : Env} {m m' : Mem} {F D o ra : Nat} (h0 : SInv p md Γ env m F D o ra)
    (x : String) (h : SInvD p md ((x, o + p.w) :: Γ) env' m' F D (o + p.w) ra)
    (hx : (Γ.map Prod.fst).contains x = false) : SInvD p md Γ env' m' F D o ra := by
  refine ⟨h.ap, h.top, h.lt, h.room, ?_, h.ra, h.dreg⟩
  intro y hy
  have hyx : y ≠ x := by intro e; subst e; rw [hx] at hy; exact absurd hy (by simp)
  have := h.vars y (by rw [contains_cons_fst, hy]; simp)
  rw [look_cons_other _ _ _ _ hyx] at this
  exact ⟨this.1, (h0.vars y hy).2.1, this.2.2⟩

theorem decl_back {Γ : Gam} {env env' : Env} {m m' : Mem} {F D o ra : Nat} (h0 : SInv p md Γ env m F D o ra)
    (x : String) (h : SInv p md ((x, o + p.w) :: Γ) env' m' F D (o + p.w) ra)
    (hx : (Γ.map Prod.fst).contains x = false) : SInv p md Γ env' m' F D o ra :=
  ⟨h.fr, (decl_backD h0 x h.toD hx).vars, h.ra, h.dreg⟩

theorem Post.decl_back {B ra : Nat} {lp : Jt} {Γ : Gam} {env env' : Env} {m0 m : Mem} {F D o e e' : Nat} {res : Res} {st : St}
    (h0 : SInv p md Γ env m0 F D o ra) (x : String) (hx : (Γ.map Prod.fst).contains x = false) (he : e' = e)
    (h : Post p B ra lp md ((x, o + p.w) :: Γ) env' F D (o + p.w) e' m res st) : Post p B ra lp md Γ env' F D o e m res st :=
  h.imp (fun _ h => Core.decl_back h0 x h hx) (fun _ h => decl_backD h0 x h hx) (fun _ => he) (fun _ => rfl) (fun _ => rfl)

theorem assign_inv {Γ : Gam} {env : Env} {m : Mem} {F D o ra : Nat} (h : SInv p md Γ env m F D o ra)
    (hd : Disj p.w Γ) (x : String) (v : Nat) (hv : v < 256 ^ p.w) (hx : (Γ.map Prod.fst).contains x = true)
    (hoD : o ≤ D) :
    SInv p md Γ (upd env x v) (m.writeLE (F - look Γ x) p.w v) F D o ra := by
  obtain ⟨hx1, hx2, _⟩ := h.vars x hx
  have hF : ∀ {l}, l ≤ o → l ≤ F := fun hl => h.fr.room ▸ Nat.le_trans (Nat.le_trans hl hoD) (Nat.le_add_left _ _)
  have ar : F - look Γ x + p.w ≤ F - p.w := slot_le (hF hx2) (Nat.two_mul p.w ▸ hx1)
  have k : Keep p.w m (m.writeLE (F - look Γ x) p.w v) (F - look Γ x + p.w) := Keep.write _ _ _ _ _ _
    (Nat.le_sub_of_add_le (h.fr.room ▸ Nat.add_le_add (Nat.mul_le_mul_right _ (by decide)) (Nat.le_trans hx2 hoD))) (Nat.le_refl _)
  refine ⟨h.fr.keep k, ?_, by rw [Mem.readLE_writeLE_disj _ _ _ _ _ _ (Or.inr ar)]; exact h.ra, h.dreg.keep k (Nat.le_trans ar (Nat.sub_le _ _))⟩
  intro y hy
  obtain ⟨h1, h2, h3⟩ := h.vars y hy
  by_cases hyx : y = x
  · subst hyx
    rw [upd_same]
    exact ⟨h1, h2, by rw [Mem.readLE_writeLE_same _ _ _ _ (Nat.le_trans ar (Nat.le_trans (Nat.sub_le _ _) h.fr.top))]; exact Nat.mod_eq_of_lt hv⟩
  · rw [upd_other _ _ _ _ hyx]
    exact ⟨h1, h2, by rw [Mem.readLE_writeLE_disj _ _ _ _ _ _ ((hd y x hy hx hyx).elim (fun e => Or.inr (slot_le (hF hx2) e))
      (fun e => Or.inl (slot_le (hF h2) e)))]; exact h3⟩

theorem le_max_r {a b c : Nat} (h : a ≤ c) : a ≤ max b c := Nat.le_trans h (Nat.le_max_right _ _)

theorem pkS_ge (w : Nat) (s : S) : ∀ o, o ≤ pkS w o s := by
  induction s with
  | nil => intro o; simp [pkS]
  | ret => intro o; simp [pkS]
  | brk => intro o; simp [pkS]
  | cnt => intro o; simp [pkS]
  | decl x e k ih => intro o; simp only [pkS]; exact le_max_r (Nat.le_trans (Nat.le_add_right _ _) (ih (o + w)))
  | assign x e k ih => intro o; simp only [pkS]; exact le_max_r (ih o)
  | write e k ih => intro o; simp only [pkS]; exact le_max_r (ih o)
  | writeln e k ih => intro o; cases e <;> simp only [pkS] <;> first | exact ih o | exact le_max_r (ih o)
  | putc c k ih => intro o; simpa [pkS] using ih o
  | block b k _ ih => intro o; simp only [pkS]; exact le_max_r (ih o)
  | ifb c t e k _ _ ih => intro o; simp only [pkS]; exact le_max_r (le_max_r (ih o))
  | loop c b ct k _ _ ih => intro o; simp only [pkS]; exact le_max_r (le_max_r (ih o))
  | defeat k ih => intro o; simpa [pkS] using ih o
  | defeatIf c k ih => intro o; simp only [pkS]; exact le_max_r (ih o)
  | tryUndo b h k _ _ ih => intro o; simp only [pkS]; exact le_max_r (ih o)
  | tryStop b h k _ _ ih => intro o; simp only [pkS]; exact le_max_r (le_max_r (le_max_r (ih o)))
  | retE e => intro o; simpa [pkS] using pkE_ge w e o false
  | callS g args k ih => intro o; simp only [pkS]; exact le_max_r (ih o)
  | declCall x g args k ih => intro o; simp only [pkS]; exact le_max_r (Nat.le_trans (Nat.le_add_right _ _) (ih (o + w)))
  | assignCall x g args k ih => intro o; simp only [pkS]; exact le_max_r (ih o)

theorem yld_reach (pc v : Nat) (m : Mem) (h : p.code[pc]? = some (.yld (.imm v))) :
    Reach (sphinx p) ⟨pc, m⟩ [Ev.out (v % p.M % 256)] ⟨pc + 1, m⟩ := by
  simpa [evl] using Reach.of_next (sys := sphinx p) (step_yld (m := m) h (ev_imm v))

theorem goto_reach (pc t : Nat) (m : Mem) (h : PlacedAt p pc (goto t)) (ht : t < 256 ^ p.w) :
    Reach (sphinx p) ⟨pc, m⟩ [] ⟨t, m⟩ := by
  exact br_reach pc m (some t) h (fun x hx => by cases hx; exact ht)

end

end HidVerif.Core
