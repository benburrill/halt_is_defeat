import HidVerif.Proofs.ParserBasics
/-!
# What the parser model accepts obeys the flavour and context rules (C06)

`OkE ctx e` / `OkS ctx s`: what every tree the parser returns satisfies — a node the grammar guards by a context
test sits in a context that passes it (sub-trees in the context the grammar computes, `ctxTryBody`, `ctxSpec`, …);
operator classes come from the tables; written types are scalars or arrays of scalars; the parts of control
statements are blocks.  `Post Q p`: every value `p` returns satisfies `Q`; the inductions on the fuel are `exprIH`, `blockIH`, `psProgram_sound`.
The second half restates the context numbers in the words of the documentation (`Pos`, `RulesE`, `RulesS`), relates
the two (`Rel`, invariant under the grammar's context expressions: `rel_steps`), and gives `accepted_respects_rules`.
-/
namespace HidVerif.Hid.Parse
open HidVerif.Hid.Lex HidVerif.Gen

/-- the class names a binary operator node can carry (levels 4 to 8 of the regenerated table) -/
def binClasses : List String := ["Mul", "Div", "Mod", "Add", "Sub", "Lt", "Le", "Gt", "Ge", "Eq", "Ne", "And", "Or"]
def incClasses : List String := incOps.map Prod.snd

inductive OkE : Nat → PExpr → Prop
  | int {ctx v} : OkE ctx (.int v)
  | char {ctx b} : OkE ctx (.char b)
  | str {ctx bs} : OkE ctx (.str bs)
  | bool {ctx b} : OkE ctx (.bool b)
  | var {ctx n} : OkE ctx (.var n)
  | arrlit {ctx items} : (∀ a ∈ items, OkE ctx a) → OkE ctx (.arrlit items)
  | call {ctx n fl args} : has ctx "FUNC" = true → flavorAllowed ctx fl = true → (∀ a ∈ args, OkE ctx a) → OkE ctx (.call n fl args)
  | len {ctx e} : OkE ctx e → OkE ctx (.len e)
  | index {ctx e i} : OkE ctx e → OkE ctx i → OkE ctx (.index e i)
  | un {ctx op e} : OkE ctx e → OkE ctx (.un op e)
  | is_ {ctx e t} : OkE ctx e → tgtOK t = true → OkE ctx (.is_ e t)
  | bin {ctx op l r} : OkE ctx l → OkE ctx r → op ∈ binClasses → OkE ctx (.bin op l r)
  | spec {ctx l r} : has ctx "YOU" = true → OkE (ctxSpec ctx) l → OkE (ctxSpec ctx) r → OkE ctx (.spec l r)

/-! ## what a parser can return -/
def Post {α : Type} (Q : α → Prop) (p : P α) : Prop := ∀ ts a rest, p ts = .val a rest → Q a

section rules
variable {α β : Type} {Q : α → Prop} {R : β → Prop} {p : P α}

theorem Post.triv (p : P α) : Post (fun _ => True) p := fun _ _ _ _ => trivial

theorem Post.pure {a : α} (h : Q a) : Post Q (pure a : P α) := fun _ _ _ e => by injection e with e _; exact e ▸ h

theorem Post.fail : Post Q (fail : P α) := fun _ _ _ e => by cases e

theorem Post.throw {e : PErr} : Post Q (throw e : P α) := fun _ _ _ e => by cases e

theorem Post.expected {en : Ending} : Post Q (expected en : P α) := fun _ _ _ e => by cases e

theorem Post.alt {k : α → P β} {q : P β} (hp : Post Q p) (hk : ∀ a, Q a → Post R (k a)) (hq : Post R q) :
    Post R (alt p k q) := by
  intro ts b rest h
  rw [alt_eq] at h
  cases hpt : p ts <;> rw [hpt] at h <;> dsimp only at h
  · exact hk _ (hp ts _ _ hpt) _ b rest h
  · exact hq ts b rest h
  · cases h

theorem Post.bind {g : α → P β} (hp : Post Q p) (hg : ∀ a, Q a → Post R (g a)) : Post R (p >>= g) := by
  rw [bind_eq_alt]
  exact hp.alt hg Post.fail

theorem Post.skip {g : α → P β} (hg : ∀ a, Post R (g a)) : Post R (p >>= g) :=
  (Post.triv p).bind fun a _ => hg a

theorem Post.expect {en : Ending} (hp : Post Q p) : Post Q (expect en p) := by
  intro ts a rest h
  rw [expect_eq] at h
  cases hpt : p ts <;> rw [hpt] at h <;> dsimp only at h
  · exact hp ts a rest (hpt.trans h)
  · cases h
  · cases h

theorem Post.opt_bind {g : Option α → P β} (hp : Post Q p) (hs : ∀ a, Q a → Post R (g (some a))) (hn : Post R (g none)) :
    Post R (opt p >>= g) := by
  rw [HidVerif.Hid.Parse.opt_bind]
  exact hp.alt hs hn

theorem Post.opt (hp : Post Q p) : Post (fun o => ∀ a, o = some a → Q a) (opt p) := by
  intro ts o rest h a ha
  rw [opt_eq] at h
  cases hpt : p ts <;> rw [hpt] at h <;> dsimp only at h
  · injection h with h _; rw [ha] at h; injection h with h; exact h ▸ hp ts _ _ hpt
  · injection h with h _; rw [ha] at h; cases h
  · cases h

theorem Post.tokenIf {en : Ending} {f : Lexeme → Option α} (h : ∀ l a, f l = some a → Q a) : Post Q (tokenIf en f) := by
  intro ts a rest e
  unfold HidVerif.Hid.Parse.tokenIf at e
  split at e
  · rename_i l _
    split at e
    · rename_i a' ha
      split at e
      · cases e
      · injection e with e _; exact e ▸ h l a' ha
    · cases e
  · cases e

/-- a construct the context must allow (`z` gives no value) -/
theorem Post.guard {b : Bool} {z q : P α} (hz : Post Q z) (hq : b = true → Post Q q) : Post Q (if !b then z else q) := by
  cases b
  · exact hz
  · exact hq rfl

end rules

theorem guard_val {α : Type} {b : Bool} {e : PErr} {r : Res α} {a : α} {rest : List Lexeme}
    (h : (if !b then .err e else r) = .val a rest) : b = true ∧ r = .val a rest := by
  cases b
  · cases h
  · exact ⟨rfl, h⟩

/-! ## operator classes and types the grammar can write -/
theorem tyOfName_ok {n : String} {t : Ty} (h : tyOfName n = some t) : scalarTy t = true ∨ t = .empty := by
  unfold tyOfName at h
  split at h <;> first | (injection h with h; subst h; simp [scalarTy]) | cases h

theorem post_opTok (en : Ending) (ops : List (String × String)) : Post (fun x => x.1 ∈ ops.map Prod.snd) (opTok en ops) := by
  refine Post.tokenIf fun l x h => ?_
  split at h
  · rename_i n _
    cases hf : ops.find? (fun (t, _) => "OpToken." ++ t == n) with
    | none => simp [hf] at h
    | some pr =>
      simp [hf] at h
      exact h ▸ List.mem_map.2 ⟨pr, List.mem_of_find?_eq_some hf, rfl⟩
  · cases h

theorem binClasses_eq : binClasses = ([4, 5, 6, 7, 8].flatMap binOps).map Prod.snd := rfl

theorem binOps_nil (L : Nat) (h : 8 < L) : binOps L = [] := by
  obtain ⟨k, rfl⟩ : ∃ k, L = k + 9 := ⟨L - 9, by omega⟩
  rfl

theorem binOps_classes : ∀ L, 3 < L → ∀ cls ∈ (binOps L).map Prod.snd, cls ∈ binClasses := by
  intro L h cls hc
  by_cases h8 : 8 < L
  · rw [binOps_nil L h8] at hc; cases hc
  · rw [binClasses_eq, List.map_flatMap, List.mem_flatMap]
    exact ⟨L, mem_levels h (Nat.le_of_not_lt h8), hc⟩

theorem post_dataTypeTok (en : Ending) : Post (fun x => scalarTy x.1 = true ∨ x.1 = .empty) (dataTypeTok en) := by
  refine Post.tokenIf fun l x h => ?_
  split at h
  · rename_i n _
    cases hn : tyOfName n with
    | none => simp [hn] at h
    | some t' =>
      simp [hn] at h
      exact h ▸ tyOfName_ok hn
  · cases h

theorem post_psDataTypeOpt (en : Ending) : Post (fun o => ∀ t, o = some t → scalarTy t = true) (psDataTypeOpt en) := by
  rw [psDataTypeOpt_eq]
  refine (post_dataTypeTok en).alt (fun x hx => ?_) (.pure nofun)
  split
  · exact .pure nofun
  · rename_i hne
    refine .pure fun t ht => ?_
    injection ht with ht
    rcases hx with h | h
    · exact ht ▸ h
    · rw [h] at hne; exact absurd rfl hne

theorem psDataTypeOpt_val {en : Ending} {ts rest : List Lexeme} {t : Ty}
    (h : psDataTypeOpt en ts = .val (some t) rest) : scalarTy t = true :=
  post_psDataTypeOpt en ts _ rest h t rfl

theorem scalar_tyOK {t : Ty} (h : scalarTy t = true) : tyOK t = true := by
  cases t <;> simp_all [tyOK, scalarTy]

theorem scalar_tgtOK {t : Ty} (h : scalarTy t = true) : tgtOK t = true := by
  cases t <;> simp_all [tgtOK, scalarTy]

theorem tyOK_scalar {t : Ty} (h : tyOK t = true) (hn : ∀ el c, t = .arr el c → False) : scalarTy t = true := by
  cases t <;> first | exact h | exact (hn _ _ rfl).elim

theorem post_psIdent (en : Ending) (allowed : Flavor → Bool) : Post (fun x => allowed x.2.1 = true) (psIdent en allowed) := by
  unfold psIdent
  refine Post.skip fun x => ?_
  obtain ⟨n, fl, l⟩ := x
  dsimp only
  split
  · rename_i h; exact .pure h
  · exact Post.throw

theorem post_psDecl (en : Ending) : Post (fun x => tyOK x.2.1 = true) (psDecl en) := by
  unfold psDecl
  have hid : ∀ {t : Ty} {c : Bool}, tyOK t = true →
      Post (fun x => tyOK x.2.1 = true) (expect en (psIdent en onlyPlain) >>= fun x => match x with | (n, _, _) => pure (n, t, c)) :=
    fun h => Post.skip fun x => .pure h
  refine Post.skip fun c => (post_psDataTypeOpt en).bind fun dt hdt => ?_
  cases dt with
  | some t =>
    have hs := hdt t rfl
    refine Post.skip fun br => ?_
    cases br with
    | some _ => exact Post.skip fun _ => hid (t := .arr t _) hs
    | none => exact hid (scalar_tyOK hs)
  | none =>
    dsimp only
    split
    · exact Post.expected
    · exact Post.fail

theorem psDecl_val {en : Ending} {ts rest : List Lexeme} {n : List CP} {t : Ty} {c : Bool}
    (h : psDecl en ts = .val (n, t, c) rest) : tyOK t = true :=
  post_psDecl en ts _ rest h

/-! ## expressions -/
section expr
variable (en : Ending)

structure ExprIH (n : Nat) : Prop where
  cList : ∀ ctx, Post (fun es => ∀ a ∈ es, OkE ctx a) (commaList en n ctx)
  cRest : ∀ ctx acc, (∀ a ∈ acc, OkE ctx a) → Post (fun es => ∀ a ∈ es, OkE ctx a) (commaRest en n ctx acc)
  fCall : ∀ ctx, Post (OkE ctx) (psFuncCall en n ctx)
  x0 : ∀ ctx, Post (OkE ctx) (psExpr0 en n ctx)
  post : ∀ ctx e0, OkE ctx e0 → Post (OkE ctx) (psPostfix en n ctx e0)
  x1 : ∀ ctx, Post (OkE ctx) (psExpr1 en n ctx)
  x2 : ∀ ctx, Post (OkE ctx) (psExpr2 en n ctx)
  x3 : ∀ ctx, Post (OkE ctx) (psExpr3 en n ctx)
  bLevel : ∀ ctx L, Post (OkE ctx) (psBinLevel en n ctx L)
  bRest : ∀ ctx L e0, 3 < L → OkE ctx e0 → Post (OkE ctx) (psBinRest en n ctx L e0)
  xTop : ∀ ctx, Post (OkE ctx) (psExpr en n ctx)

theorem exprIH_zero : ExprIH en 0 := by
  refine ⟨?_, ?_, ?_, ?_, ?_, ?_, ?_, ?_, ?_, ?_, ?_⟩
  · intro ctx; rw [commaList]; exact Post.throw
  · intro ctx acc _; rw [commaRest]; exact Post.throw
  · intro ctx; rw [psFuncCall]; exact Post.throw
  · intro ctx; rw [psExpr0]; exact Post.throw
  · intro ctx e0 _; rw [psPostfix]; exact Post.throw
  · intro ctx; rw [psExpr1]; exact Post.throw
  · intro ctx; rw [psExpr2]; exact Post.throw
  · intro ctx; rw [psExpr3]; exact Post.throw
  · intro ctx L; rw [psBinLevel]; exact Post.throw
  · intro ctx L e0 _ _; rw [psBinRest]; exact Post.throw
  · intro ctx; rw [psExpr]; exact Post.throw

theorem exprIH_succ {n : Nat} (ih : ExprIH en n) : ExprIH en (n + 1) := by
  have hx : ∀ ctx, Post (OkE ctx) (expect en (psExpr en n ctx)) := fun ctx => (ih.xTop ctx).expect
  constructor
  case cList =>
    intro ctx
    rw [commaList]
    refine (ih.xTop ctx).opt_bind (fun e he => ?_) (.pure nofun)
    exact ih.cRest ctx [e] (List.forall_mem_cons.2 ⟨he, nofun⟩)
  case cRest =>
    intro ctx acc hacc
    rw [commaRest]
    refine (Post.triv _).opt_bind (fun _ _ => ?_) (.pure fun a ha => hacc a (List.mem_reverse.1 ha))
    exact (hx ctx).bind fun e he => ih.cRest ctx (e :: acc) (List.forall_mem_cons.2 ⟨he, hacc⟩)
  case fCall =>
    intro ctx
    rw [psFuncCall]
    refine Post.guard Post.fail fun hf => (post_psIdent en _).bind fun x hfl => ?_
    obtain ⟨nm, fl, l⟩ := x
    exact Post.skip fun _ => (ih.cList ctx).bind fun args hargs => Post.skip fun _ =>
      .pure (.call hf hfl hargs)
  case x0 =>
    intro ctx
    rw [psExpr0_eq]
    refine (Post.triv _).alt (fun _ _ => (hx ctx).bind fun e he => Post.skip fun _ => .pure he) ?_
    refine (Post.tokenIf (Q := OkE ctx) fun l lit h => ?_).alt (fun lit hl => .pure hl) ?_
    · split at h <;> first | (injection h with h; subst h; constructor) | cases h
    refine (Post.triv _).alt (fun _ _ => (ih.cList ctx).bind fun items hi => Post.skip fun _ => .pure (.arrlit hi)) ?_
    refine (ih.fCall ctx).alt (fun c hc => .pure hc) (Post.skip fun x => ?_)
    obtain ⟨nm, fl, l⟩ := x
    exact .pure .var
  case post =>
    intro ctx e0 h0
    rw [psPostfix]
    refine (Post.triv _).opt_bind (fun _ _ => Post.skip fun _ => ih.post ctx _ (.len h0)) ?_
    refine (Post.triv _).opt_bind (fun _ _ => ?_) (.pure h0)
    exact (hx ctx).bind fun i hi => Post.skip fun _ => ih.post ctx _ (.index h0 hi)
  case x1 =>
    intro ctx
    rw [psExpr1]
    exact (ih.x0 ctx).bind fun e0 h0 => ih.post ctx e0 h0
  case x2 =>
    intro ctx
    rw [psExpr2]
    refine (Post.triv _).opt_bind (fun o _ => ?_) (ih.x1 ctx)
    obtain ⟨cls, l⟩ := o
    exact (ih.x2 ctx).expect.bind fun e he => .pure (.un he)
  case x3 =>
    intro ctx
    rw [psExpr3]
    refine (ih.x2 ctx).bind fun e he => (Post.triv _).opt_bind (fun _ _ => ?_) (.pure he)
    refine (post_psDataTypeOpt en).bind fun t? ht => ?_
    cases t? with
    | none => exact Post.expected
    | some t =>
      have hs := ht t rfl
      exact (Post.triv _).opt_bind (fun _ _ => Post.skip fun _ => .pure (.is_ he hs)) (.pure (.is_ he (scalar_tgtOK hs)))
  case bLevel =>
    intro ctx L
    rw [psBinLevel]
    split
    · exact ih.x3 ctx
    · exact (ih.bLevel ctx (L - 1)).bind fun e0 h0 => ih.bRest ctx L e0 (by omega) h0
  case bRest =>
    intro ctx L e0 hL h0
    rw [psBinRest]
    refine (post_opTok en _).opt_bind (fun o ho => ?_) (.pure h0)
    obtain ⟨cls, l⟩ := o
    exact (ih.bLevel ctx (L - 1)).expect.bind fun r hr =>
      ih.bRest ctx L _ hL (.bin h0 hr (binOps_classes L hL _ ho))
  case xTop =>
    intro ctx ts e rest h
    rw [psExpr] at h
    dsimp only at h
    split at h
    · cases h
    · cases h
    · rename_i left rest1 hl
      have hleft := ih.bLevel ctx 8 ts left rest1 hl
      split at h
      · cases h
      · cases h
      · injection h with h _; exact h ▸ hleft
      · obtain ⟨hy, h⟩ := guard_val h
        have hb : Post (OkE (ctxSpec ctx)) (expect en (psBinLevel en n (ctxSpec ctx) 8)) := (ih.bLevel _ 8).expect
        exact (hb.bind fun l hl => Post.skip fun _ => hb.bind fun r hr => .pure (.spec hy hl hr)) ts e rest h

theorem exprIH : ∀ n, ExprIH en n
  | 0 => exprIH_zero en
  | n + 1 => exprIH_succ en (exprIH n)

theorem post_psExpr (fuel ctx : Nat) : Post (OkE ctx) (psExpr en fuel ctx) := (exprIH en fuel).xTop ctx

end expr


/-! ## statements and blocks -/
/-- a statement of block form: what `ps_block` returns, and what the parts of control statements are -/
def blockishP : PStmt → Bool
  | .block _ _ => true | .ifb _ _ _ => true | .loop _ _ _ => true | .tryb _ _ _ => true | .preempt _ => true
  | _ => false

inductive OkS : Nat → PStmt → Prop
  | expr {ctx e} : OkE ctx e → OkS ctx (.expr e)
  | decl {ctx n t c init} : OkE ctx init → tyOK t = true → OkS ctx (.decl n t c init)
  | vla {ctx n t c len} : OkE ctx len → scalarTy t = true → OkS ctx (.vla n t c len)
  | assign {ctx l r} : OkE ctx l → OkE ctx r → OkS ctx (.assign l r)
  | incassign {ctx l r op} : OkE ctx l → OkE ctx r → op ∈ incClasses → OkS ctx (.incassign l r op)
  | ret {ctx eo} : (∀ e, eo = some e → OkE ctx e) → OkS ctx (.ret eo)
  | brk {ctx} : has ctx "LOOP" = true → OkS ctx .brk
  | cont {ctx} : has ctx "LOOP" = true → OkS ctx .cont
  | block {ctx ss p} : (∀ s ∈ ss, OkS ctx s) → OkS ctx (.block ss p)
  | ifb {ctx c t e} : OkE ctx c → OkS (ctxIfBody ctx) t → OkS (ctxElse ctx) e → blockishP t = true → blockishP e = true → OkS ctx (.ifb c t e)
  | loop {ctx c b k} : OkE ctx c → OkS (ctxWhileBody ctx) b → OkS ctx k → blockishP b = true → blockishP k = true → OkS ctx (.loop c b k)
  | tryb {ctx b k h} : has ctx "YOU" = true → OkS (ctxTryBody ctx) b → OkS (ctxHandler ctx) h → blockishP b = true → blockishP h = true → OkS ctx (.tryb b k h)
  | preempt {ctx b} : has ctx "DEFEAT" = true → OkS (ctxPreemptBody ctx) b → blockishP b = true → OkS ctx (.preempt b)

section program
variable (en : Ending)

theorem post_psVdecl (fuel ctx : Nat) : Post (OkS ctx) (psVdecl en fuel ctx) := by
  unfold psVdecl
  have hx : Post (OkE ctx) (expect en (psExpr en fuel ctx)) := (post_psExpr en fuel ctx).expect
  refine (post_psDecl en).bind fun x hty => ?_
  obtain ⟨n, t, c⟩ := x
  dsimp only
  refine Post.skip fun br => ?_
  cases br with
  | some l =>
    dsimp only
    split
    · exact Post.throw
    · rename_i hna
      exact hx.bind fun len hlen => Post.skip fun _ => .pure (.vla hlen (tyOK_scalar hty hna))
  | none => exact Post.skip fun _ => hx.bind fun init hi => .pure (.decl hi hty)

theorem lookup_mem_snd {k v : String} {l : List (String × String)} (h : l.lookup k = some v) : v ∈ l.map Prod.snd := by
  obtain ⟨l₁, l₂, rfl, _⟩ := List.lookup_eq_some_iff.1 h
  exact List.mem_map.2 ⟨(k, v), List.mem_append_right _ List.mem_cons_self, rfl⟩

theorem post_psAssignment (fuel ctx : Nat) : Post (OkS ctx) (psAssignment en fuel ctx) := by
  unfold psAssignment
  have hx := post_psExpr en fuel ctx
  refine hx.bind fun a ha => Post.guard Post.fail fun _ => Post.skip fun eq => ?_
  cases eq with
  | some _ => exact hx.expect.bind fun r hr => .pure (.assign ha hr)
  | none =>
    refine (Post.tokenIf (Q := fun x => x.1 ∈ incClasses) fun l x h => ?_).bind fun x hcls => ?_
    · split at h
      · rename_i n _
        cases hn : incOps.lookup n with
        | none => simp [hn] at h
        | some c =>
          simp [hn] at h
          exact h ▸ lookup_mem_snd hn
      · cases h
    · obtain ⟨cls, l⟩ := x
      exact hx.expect.bind fun r hr => .pure (.incassign ha hr hcls)

theorem post_psPlainStmt (fuel ctx : Nat) (allowDecl : Bool) : Post (OkS ctx) (psPlainStmt en fuel ctx allowDecl) := by
  rw [psPlainStmt_eq]
  refine (post_psAssignment en fuel ctx).alt (fun s hs => .pure hs) ?_
  refine (post_psExpr en fuel ctx).alt (fun e he => .pure (.expr he)) ?_
  cases allowDecl
  · exact Post.fail
  · exact post_psVdecl en fuel ctx

theorem post_loopOnly {Q : PStmt → Prop} {ctx : Nat} {s : PStmt} (l : Lexeme) (h : has ctx "LOOP" = true → Q s) :
    Post Q (loopOnly ctx s l) := fun ts a rest e => by
  obtain ⟨hl, e⟩ := guard_val e
  injection e with e _
  exact e ▸ h hl

theorem post_psStmt (fuel ctx : Nat) : Post (OkS ctx) (psStmt en fuel ctx) := by
  rw [psStmt_eq]
  refine (Post.triv _).alt (fun l _ => post_loopOnly l .brk) ?_
  refine (Post.triv _).alt (fun l _ => post_loopOnly l .cont) ?_
  refine (Post.triv _).alt (fun _ _ => ?_) (post_psPlainStmt en fuel ctx true)
  exact (post_psExpr en fuel ctx).opt.bind fun eo he => .pure (.ret he)

structure BlockIH (n : Nat) : Prop where
  codeBlock : ∀ ctx, Post (fun s => OkS ctx s ∧ blockishP s = true) (psCodeBlock en n ctx)
  items : ∀ ctx acc pre, (∀ a ∈ acc, OkS ctx a) → Post (fun s => OkS ctx s ∧ blockishP s = true) (psBlockItems en n ctx acc pre)
  blk : ∀ ctx, Post (fun s => OkS ctx s ∧ blockishP s = true) (psBlock en n ctx)

theorem blockIH_zero : BlockIH en 0 := by
  refine ⟨?_, ?_, ?_⟩
  · intro ctx; rw [psCodeBlock]; exact Post.throw
  · intro ctx acc pre _; rw [psBlockItems]; exact Post.throw
  · intro ctx; rw [psBlock]; exact Post.throw

theorem blockIH_succ {n : Nat} (ih : BlockIH en n) : BlockIH en (n + 1) := by
  refine ⟨?_, ?_, ?_⟩
  · intro ctx
    rw [psCodeBlock]
    exact Post.skip fun _ => ih.items ctx [] false nofun
  · intro ctx acc pre hacc
    rw [psBlockItems]
    refine (Post.triv _).opt_bind (fun _ _ => .pure ⟨.block fun a ha => hacc a (List.mem_reverse.1 ha), rfl⟩) ?_
    refine (post_psStmt en n ctx).opt_bind (fun s1 hs => ?_) ?_
    · exact Post.skip fun _ => ih.items ctx _ pre (List.forall_mem_cons.2 ⟨hs, hacc⟩)
    refine (Post.triv _).opt_bind (fun _ _ => ih.items ctx acc pre hacc) ?_
    exact (ih.blk ctx).expect.bind fun b hb => ih.items ctx _ _ (List.forall_mem_cons.2 ⟨hb.1, hacc⟩)
  · intro ctx ts s rest h
    rw [psBlock] at h
    dsimp only at h
    have hx : ∀ c', Post (OkE c') (expect en (psExpr en n c')) := fun c' => (post_psExpr en n c').expect
    have hb : ∀ c', Post (fun s => OkS c' s ∧ blockishP s = true) (expect en (psBlock en n c')) := fun c' => (ih.blk c').expect
    have nil : ∀ c', OkS c' (.block [] false) := fun _ => .block nofun
    have fin : ∀ {p : P PStmt} {ts' : List Lexeme}, Post (fun s => OkS ctx s ∧ blockishP s = true) p → p ts' = .val s rest →
        OkS ctx s ∧ blockishP s = true := fun hp h => hp _ _ _ h
    split at h
    · cases h
    · cases h
    · exact ih.codeBlock ctx ts s rest h
    · refine fin (Post.skip fun _ => (hx ctx).bind fun c hc => Post.skip fun _ => (hb _).bind fun body hbody =>
        (Post.triv _).opt_bind (fun _ _ => ?_) ?_) h
      · exact (hb _).bind fun e he => .pure ⟨.ifb hc hbody.1 he.1 hbody.2 he.2, rfl⟩
      · exact .pure ⟨.ifb hc hbody.1 (nil _) hbody.2 rfl, rfl⟩
    · exact fin (Post.skip fun _ => (hx ctx).bind fun c hc => Post.skip fun _ => (hb _).bind fun body hbody =>
        .pure ⟨.loop hc hbody.1 (nil _) hbody.2 rfl, rfl⟩) h
    · refine fin (Post.skip fun _ => (post_psPlainStmt en n ctx true).opt.bind fun init hinit => Post.skip fun _ =>
        (post_psExpr en n ctx).opt.bind fun c hc => Post.skip fun _ =>
        (post_psPlainStmt en n ctx false).opt.bind fun cont hcont => Post.skip fun _ => (hb _).bind fun body hbody =>
        .pure ⟨.block fun a ha => ?_, rfl⟩) h
      have hcond : OkE ctx (c.getD (.bool true)) := by
        cases c with
        | none => exact .bool
        | some c' => exact hc c' rfl
      rcases List.mem_append.1 ha with ha | ha
      · cases init with
        | none => cases ha
        | some i => rw [List.mem_singleton.1 ha]; exact hinit i rfl
      · rw [List.mem_singleton.1 ha]
        cases cont with
        | none => exact .loop hcond hbody.1 (nil _) hbody.2 rfl
        | some k => exact .loop hcond hbody.1 (.block (List.forall_mem_cons.2 ⟨hcont k rfl, nofun⟩)) hbody.2 rfl
    · obtain ⟨hy, h⟩ := guard_val h
      exact fin ((hb _).bind fun body h1 => Post.skip fun k => (hb _).bind fun hd h2 =>
        .pure ⟨.tryb hy h1.1 h2.1 h1.2 h2.2, rfl⟩) h
    · obtain ⟨hd, h⟩ := guard_val h
      exact fin ((hb _).bind fun body h1 => .pure ⟨.preempt hd h1.1 h1.2, rfl⟩) h

theorem blockIH : ∀ n, BlockIH en n
  | 0 => blockIH_zero en
  | n + 1 => blockIH_succ en (blockIH n)

/-! ## functions and programs -/
/-- the match in `psFunc` -/
def funcCtx : Flavor → Nat
  | .you => funcContexts.getD 0 0 | .defeat => funcContexts.getD 1 0 | .none => funcContexts.getD 2 0

theorem post_more : ∀ (fuel : Nat) (acc : List (List CP × Ty × Bool)), (∀ q ∈ acc, tyOK q.2.1 = true) →
    Post (fun ps => ∀ q ∈ ps, tyOK q.2.1 = true) (psParams.more en fuel acc)
  | 0, _, _ => by rw [psParams.more]; exact Post.throw
  | fuel + 1, acc, hacc => by
    rw [psParams.more]
    refine (Post.triv _).opt_bind (fun _ _ => ?_) (.pure fun q hq => hacc q (List.mem_reverse.1 hq))
    exact (post_psDecl en).expect.bind fun q hq => post_more fuel _ (List.forall_mem_cons.2 ⟨hq, hacc⟩)

theorem psParams_val (fuel : Nat) (ts : List Lexeme) (ps : List (List CP × Ty × Bool)) (rest : List Lexeme)
    (h : psParams en fuel ts = .val ps rest) : ∀ q ∈ ps, tyOK q.2.1 = true := by
  revert ts ps rest
  show Post (fun ps => ∀ q ∈ ps, tyOK q.2.1 = true) (psParams en fuel)
  cases fuel with
  | zero => rw [psParams]; exact Post.throw
  | succ fuel =>
    rw [psParams]
    refine (post_psDecl en).opt_bind (fun p hp => ?_) (.pure nofun)
    exact post_more en fuel _ (List.forall_mem_cons.2 ⟨hp, nofun⟩)

def SigOK (f : PFunc) : Prop := (tyOK f.ret = true ∨ f.ret = .empty) ∧ ∀ q ∈ f.params, tyOK q.2.1 = true

theorem post_psFunc (fuel : Nat) : Post (fun f => OkS (funcCtx f.fl) f.body ∧ SigOK f) (psFunc en fuel) := by
  unfold psFunc
  refine (post_dataTypeTok en).bind fun x hrt => ?_
  obtain ⟨rt, _⟩ := x
  refine Post.skip fun x => ?_
  obtain ⟨n, fl⟩ := x
  refine Post.skip fun _ => Post.bind (psParams_val en fuel) fun ps hps => Post.skip fun _ =>
    ((blockIH en fuel).codeBlock _).expect.bind fun body hbody => .pure ⟨?_, hrt.imp_left scalar_tyOK, hps⟩
  cases fl <;> exact hbody.1

/-- bodies and global initialisers obey the context rules; written types are scalars or arrays of scalars -/
structure ProgOK (p : PProgram) : Prop where
  funcs : ∀ f ∈ p.funcs, OkS (funcCtx f.fl) f.body
  vars : ∀ v ∈ p.vars, OkS 0 v
  sigs : ∀ f ∈ p.funcs, SigOK f

theorem psProgram_sound (fuel : Nat) : ∀ (k : Nat) (vs : List PStmt) (fs : List PFunc) (ts : List Lexeme) (p : PProgram)
    (rest : List Lexeme), (∀ f ∈ fs, OkS (funcCtx f.fl) f.body ∧ SigOK f) → (∀ v ∈ vs, OkS 0 v) →
    psProgram en fuel k vs fs ts = .val p rest → ProgOK p := by
  intro k
  induction k with
  | zero => intro vs fs ts p rest _ _ h; rw [psProgram] at h; cases h
  | succ k ih =>
    intro vs fs ts p rest hfs hvs h
    rw [psProgram] at h
    dsimp only at h
    split at h
    · injection h with h1 _
      subst h1
      exact ⟨fun f hf => (hfs f (List.mem_reverse.1 hf)).1, fun v hv => hvs v (List.mem_reverse.1 hv), fun f hf => (hfs f (List.mem_reverse.1 hf)).2⟩
    · split at h
      · cases h
      · cases h
      · rename_i f1 rest1 hf1
        exact ih vs (f1 :: fs) rest1 p rest (List.forall_mem_cons.2 ⟨(post_psFunc en fuel).opt _ _ _ hf1 f1 rfl, hfs⟩) hvs h
      · split at h
        · cases h
        · cases h
        · exact ih vs fs _ p rest hfs hvs h
        · split at h
          · rename_i v rest1 hv
            have hv' := ((post_psVdecl en fuel 0).expect.bind fun v' hv' => Post.skip fun _ => Post.pure hv') _ v rest1 hv
            exact ih (v :: vs) fs rest1 p rest hfs (List.forall_mem_cons.2 ⟨hv', hvs⟩) h
          · cases h
          · cases h

/-- **Soundness of parsing w.r.t. the context rules**: every program the parser model accepts obeys them -/
theorem parse_sound (src : List Line) (p : PProgram) (h : parse src = .ok p) : ProgOK p := by
  unfold parse at h
  dsimp only at h
  split at h
  · cases h
  · split at h
    · rename_i p' rest hp
      injection h with h1; subst h1
      exact psProgram_sound _ _ _ [] [] _ _ _ nofun nofun hp
    · cases h
    · cases h

end program


/-! ## the documented rules, and why the context numbers enforce them -/

inductive Kind | you | defeat | ordinary | global
  deriving DecidableEq, Repr

/-- where a piece of code sits, in the words of the documentation -/
structure Pos where
  kind : Kind          -- flavour of the enclosing function (`global`: an initialiser outside any function)
  inTry : Bool
  inLoop : Bool
  inSpec : Bool
  deriving DecidableEq, Repr

def mayCall (p : Pos) : Flavor → Bool
  | .none => p.kind != .global
  | .you => p.kind == .you && !p.inTry && !p.inSpec
  | .defeat => (p.inTry || p.kind == .defeat) && !p.inSpec
/-- `try` and `??`: only in you-functions, never inside a try body (or an operand of `??`) -/
def mayTry (p : Pos) : Bool := p.kind == .you && !p.inTry && !p.inSpec
/-- `preempt`: only inside try bodies or defeat functions -/
def mayPreempt (p : Pos) : Bool := (p.inTry || p.kind == .defeat) && !p.inSpec

inductive RulesE : Pos → PExpr → Prop
  | int {p v} : RulesE p (.int v)
  | char {p b} : RulesE p (.char b)
  | str {p bs} : RulesE p (.str bs)
  | bool {p b} : RulesE p (.bool b)
  | var {p n} : RulesE p (.var n)
  | arrlit {p items} : (∀ a ∈ items, RulesE p a) → RulesE p (.arrlit items)
  | call {p n fl args} : mayCall p fl = true → (∀ a ∈ args, RulesE p a) → RulesE p (.call n fl args)
  | len {p e} : RulesE p e → RulesE p (.len e)
  | index {p e i} : RulesE p e → RulesE p i → RulesE p (.index e i)
  | un {p op e} : RulesE p e → RulesE p (.un op e)
  | is_ {p e t} : RulesE p e → RulesE p (.is_ e t)
  | bin {p op l r} : RulesE p l → RulesE p r → RulesE p (.bin op l r)
  | spec {p l r} : mayTry p = true → RulesE { p with inSpec := true } l → RulesE { p with inSpec := true } r → RulesE p (.spec l r)

inductive RulesS : Pos → PStmt → Prop
  | expr {p e} : RulesE p e → RulesS p (.expr e)
  | decl {p n t c init} : RulesE p init → RulesS p (.decl n t c init)
  | vla {p n t c len} : RulesE p len → RulesS p (.vla n t c len)
  | assign {p l r} : RulesE p l → RulesE p r → RulesS p (.assign l r)
  | incassign {p l r op} : RulesE p l → RulesE p r → RulesS p (.incassign l r op)
  | ret {p eo} : (∀ e, eo = some e → RulesE p e) → RulesS p (.ret eo)
  | brk {p} : p.inLoop = true → RulesS p .brk
  | cont {p} : p.inLoop = true → RulesS p .cont
  | block {p ss pre} : (∀ s ∈ ss, RulesS p s) → RulesS p (.block ss pre)
  | ifb {p c t e} : RulesE p c → RulesS p t → RulesS p e → RulesS p (.ifb c t e)
  | loop {p c b k} : RulesE p c → RulesS { p with inLoop := true } b → RulesS p k → RulesS p (.loop c b k)
  | tryb {p b k h} : mayTry p = true → RulesS { p with inTry := true } b → RulesS p h → RulesS p (.tryb b k h)
  | preempt {p b} : mayPreempt p = true → RulesS p b → RulesS p (.preempt b)

/-- the context number `c` grants exactly what the documentation grants at position `p` -/
def Rel (c : Nat) (p : Pos) : Bool :=
  reachableCtx.contains c &&
  (has c "FUNC" == (p.kind != .global)) &&
  (flavorAllowed c .none == mayCall p .none) && (flavorAllowed c .you == mayCall p .you) &&
  (flavorAllowed c .defeat == mayCall p .defeat) &&
  (has c "YOU" == mayTry p) && (has c "DEFEAT" == mayPreempt p) && (has c "LOOP" == p.inLoop)

def allPos : List Pos :=
  [Kind.you, .defeat, .ordinary, .global].flatMap fun k => [false, true].flatMap fun a => [false, true].flatMap fun b =>
    [false, true].map fun c => ⟨k, a, b, c⟩

theorem mem_allPos (p : Pos) : p ∈ allPos := by
  obtain ⟨k, a, b, c⟩ := p
  simp only [allPos, List.mem_flatMap, List.mem_map, List.mem_cons, List.not_mem_nil, or_false, Pos.mk.injEq]
  exact ⟨k, by cases k <;> simp, a, by cases a <;> simp, b, by cases b <;> simp, c, by cases c <;> simp, rfl, rfl, rfl, rfl⟩

/-- the transitions of the grammar's context expressions are the transitions of the documentation -/
theorem rel_steps : ∀ c ∈ reachableCtx, ∀ p ∈ allPos, Rel c p = true →
    Rel (ctxIfBody c) p = true ∧ Rel (ctxElse c) p = true ∧
    Rel (ctxWhileBody c) { p with inLoop := true } = true ∧ Rel (ctxForBody c) { p with inLoop := true } = true ∧
    (has c "YOU" = true → Rel (ctxTryBody c) { p with inTry := true } = true ∧ Rel (ctxHandler c) p = true ∧
      Rel (ctxSpec c) { p with inSpec := true } = true) ∧
    (has c "DEFEAT" = true → Rel (ctxPreemptBody c) p = true) := by decide +kernel

theorem rel_start : Rel (funcCtx .you) ⟨.you, false, false, false⟩ = true ∧ Rel (funcCtx .defeat) ⟨.defeat, false, false, false⟩ = true ∧
    Rel (funcCtx .none) ⟨.ordinary, false, false, false⟩ = true ∧ Rel 0 ⟨.global, false, false, false⟩ = true := by decide +kernel


theorem rel_facts {c : Nat} {p : Pos} (h : Rel c p = true) :
    c ∈ reachableCtx ∧ (∀ fl, flavorAllowed c fl = mayCall p fl) ∧ has c "YOU" = mayTry p ∧
    has c "DEFEAT" = mayPreempt p ∧ has c "LOOP" = p.inLoop := by
  simp only [Rel, Bool.and_eq_true, beq_iff_eq, List.contains_iff_mem] at h
  obtain ⟨⟨⟨⟨⟨⟨⟨h1, _⟩, h3⟩, h4⟩, h5⟩, h6⟩, h7⟩, h8⟩ := h
  exact ⟨h1, fun fl => by cases fl <;> assumption, h6, h7, h8⟩

theorem rulesE_of_ok {c : Nat} {e : PExpr} (h : OkE c e) : ∀ p, Rel c p = true → RulesE p e := by
  induction h with
  | int => intro p _; exact .int
  | char => intro p _; exact .char
  | str => intro p _; exact .str
  | bool => intro p _; exact .bool
  | var => intro p _; exact .var
  | arrlit _ ih => intro p hr; exact .arrlit (fun a ha => ih a ha p hr)
  | call _ hfl _ ih =>
    intro p hr
    exact .call (by rw [← (rel_facts hr).2.1]; exact hfl) (fun a ha => ih a ha p hr)
  | len _ ih => intro p hr; exact .len (ih p hr)
  | index _ _ ih1 ih2 => intro p hr; exact .index (ih1 p hr) (ih2 p hr)
  | un _ ih => intro p hr; exact .un (ih p hr)
  | is_ _ _ ih => intro p hr; exact .is_ (ih p hr)
  | bin _ _ _ ih1 ih2 => intro p hr; exact .bin (ih1 p hr) (ih2 p hr)
  | spec hy _ _ ih1 ih2 =>
    intro p hr
    have hf := rel_facts hr
    have hs := ((rel_steps _ hf.1 p (mem_allPos p) hr).2.2.2.2.1 hy).2.2
    exact .spec (by rw [← hf.2.2.1]; exact hy) (ih1 _ hs) (ih2 _ hs)

theorem rulesS_of_ok {c : Nat} {s : PStmt} (h : OkS c s) : ∀ p, Rel c p = true → RulesS p s := by
  induction h with
  | expr he => intro p hr; exact .expr (rulesE_of_ok he p hr)
  | decl he _ => intro p hr; exact .decl (rulesE_of_ok he p hr)
  | vla he _ => intro p hr; exact .vla (rulesE_of_ok he p hr)
  | assign h1 h2 => intro p hr; exact .assign (rulesE_of_ok h1 p hr) (rulesE_of_ok h2 p hr)
  | incassign h1 h2 _ => intro p hr; exact .incassign (rulesE_of_ok h1 p hr) (rulesE_of_ok h2 p hr)
  | ret he => intro p hr; exact .ret (fun e h => rulesE_of_ok (he e h) p hr)
  | brk hl => intro p hr; exact .brk (by rw [← (rel_facts hr).2.2.2.2]; exact hl)
  | cont hl => intro p hr; exact .cont (by rw [← (rel_facts hr).2.2.2.2]; exact hl)
  | block _ ih => intro p hr; exact .block (fun a ha => ih a ha p hr)
  | ifb hc _ _ _ _ ih1 ih2 =>
    intro p hr
    have hst := rel_steps _ (rel_facts hr).1 p (mem_allPos p) hr
    exact .ifb (rulesE_of_ok hc p hr) (ih1 p hst.1) (ih2 p hst.2.1)
  | loop hc _ _ _ _ ih1 ih2 =>
    intro p hr
    have hst := rel_steps _ (rel_facts hr).1 p (mem_allPos p) hr
    exact .loop (rulesE_of_ok hc p hr) (ih1 _ hst.2.2.1) (ih2 p hr)
  | tryb hy _ _ _ _ ih1 ih2 =>
    intro p hr
    have hf := rel_facts hr
    have hst := (rel_steps _ hf.1 p (mem_allPos p) hr).2.2.2.2.1 hy
    exact .tryb (by rw [← hf.2.2.1]; exact hy) (ih1 _ hst.1) (ih2 p hst.2.1)
  | preempt hd _ _ ih =>
    intro p hr
    have hf := rel_facts hr
    have hst := (rel_steps _ hf.1 p (mem_allPos p) hr).2.2.2.2.2 hd
    exact .preempt (by rw [← hf.2.2.2.1]; exact hd) (ih p hst)

def startPos : Flavor → Pos
  | .you => ⟨.you, false, false, false⟩ | .defeat => ⟨.defeat, false, false, false⟩ | .none => ⟨.ordinary, false, false, false⟩

/-- **C06, soundness**: every program the parser accepts respects the documented flavour and context
rules — in every function body, and in every global initialiser (which may contain no call at all) -/
theorem accepted_respects_rules (src : List Line) (p : PProgram) (h : parse src = .ok p) :
    (∀ f ∈ p.funcs, RulesS (startPos f.fl) f.body) ∧ (∀ v ∈ p.vars, RulesS ⟨.global, false, false, false⟩ v) := by
  have ok := parse_sound src p h
  refine ⟨fun f hf => ?_, fun v hv => rulesS_of_ok (ok.vars v hv) _ rel_start.2.2.2⟩
  have := ok.funcs f hf
  cases hfl : f.fl <;> rw [hfl] at this
  · exact rulesS_of_ok this _ rel_start.2.2.1
  · exact rulesS_of_ok this _ rel_start.1
  · exact rulesS_of_ok this _ rel_start.2.1

end HidVerif.Hid.Parse
