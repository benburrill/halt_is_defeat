import HidVerif.Hid.Lexer
/-!
# The digit reader (C12 i)

`digitsSep_spec`: for every digit class, a first digit followed by digits with single underscores anywhere between
them (`renderTail`), in front of something that does not continue the literal (`Stops`), is read completely and
the underscores do not contribute.
-/
namespace HidVerif.Hid.Lex

/-- the text after a literal does not continue it -/
def Stops (isD : CP → Option Nat) : Line → Prop
  | [] => True
  | d :: l' => isD d = none ∧ (d = 95 → match l' with | e :: _ => isD e = none | [] => True)

/-- further digits, each optionally preceded by one underscore -/
def renderTail : List (Bool × CP) → Line
  | [] => []
  | (sep, c) :: tl => (if sep then [95, c] else [c]) ++ renderTail tl

theorem more_spec (isD : CP → Option Nat) (hus : isD 95 = none) (rest : Line) (hrest : Stops isD rest) :
    ∀ (tl : List (Bool × CP)) (val : CP → Nat), (∀ x ∈ tl, isD x.2 = some (val x.2)) →
    ∀ (fuel : Nat) (acc : List Nat) (n : Nat), (renderTail tl ++ rest).length ≤ fuel →
      digitsSep.more isD fuel (renderTail tl ++ rest) acc n =
        (acc.reverse ++ tl.map (fun x => val x.2), n + (renderTail tl).length) := by
  intro tl
  induction tl with
  | nil =>
    intro val hv fuel acc n _
    simp only [renderTail, List.nil_append, List.append_nil, List.length_nil, Nat.add_zero, List.map_nil]
    cases fuel with
    | zero => simp [digitsSep.more]
    | succ fuel =>
      cases rest with
      | nil => simp [digitsSep.more]
      | cons d l' =>
        obtain ⟨hd, hu⟩ := hrest
        unfold digitsSep.more
        simp only [hd]
        by_cases h95 : d = 95
        · subst h95
          cases l' with
          | nil => simp
          | cons e l'' =>
            have := hu rfl
            simp only at this
            simp [this]
        · simp [h95]
  | cons x tl ih =>
    intro val hv fuel acc n hf
    obtain ⟨sep, c⟩ := x
    have hc : isD c = some (val c) := hv (sep, c) (by simp)
    have hrestv : ∀ x ∈ tl, isD x.2 = some (val x.2) := fun x hx => hv x (by simp [hx])
    generalize hvdef : val c = v at hc
    have hmap : (List.map (fun x => val x.2) ((sep, c) :: tl)) = v :: tl.map (fun x => val x.2) := by simp [hvdef]
    rw [hmap]
    cases sep with
      | false =>
        simp only [renderTail, Bool.false_eq_true, if_false, List.cons_append, List.nil_append] at hf ⊢
        cases fuel with
        | zero => simp at hf
        | succ fuel =>
          unfold digitsSep.more
          simp only [hc]
          rw [ih val hrestv fuel (v :: acc) (n + 1) (by simp at hf ⊢; omega)]
          simp [Nat.add_assoc, Nat.add_comm 1]
      | true =>
        simp only [renderTail, if_true, List.cons_append, List.nil_append] at hf ⊢
        cases fuel with
        | zero => simp at hf
        | succ fuel =>
          unfold digitsSep.more
          simp only [hus, hc]
          rw [ih val hrestv fuel (v :: acc) (n + 2) (by simp at hf ⊢; omega)]
          simp [Nat.add_assoc, Nat.add_comm 2]

theorem digitsSep_spec (isD : CP → Option Nat) (hus : isD 95 = none) (c0 : CP) (v0 : Nat) (h0 : isD c0 = some v0)
    (tl : List (Bool × CP)) (val : CP → Nat) (hv : ∀ x ∈ tl, isD x.2 = some (val x.2))
    (rest : Line) (hrest : Stops isD rest) :
    digitsSep isD (c0 :: renderTail tl ++ rest) = (v0 :: tl.map (fun x => val x.2), 1 + (renderTail tl).length) := by
  simp only [digitsSep, List.cons_append, h0]
  rw [more_spec isD hus rest hrest tl val hv _ [v0] 1 (Nat.le_refl _)]
  simp

end HidVerif.Hid.Lex
