import HidVerif.Proofs.CoreMem
import HidVerif.Proofs.Terminal
import HidVerif.Proofs.CoreSem
/-!
# Core compiler proofs: expressions

`cE_ok`: the code `eval_expr` emits for an integer expression computes the value the source
semantics `evalE` gives (for every word size, every placement, every frame), leaves the
frame above the current offset untouched, and — in checked builds — reaches the
`division_by_zero` stub when the source semantics faults.
-/
namespace HidVerif.Core
open HidVerif HidVerif.PSys HidVerif.Sphinx HidVerif.Gen

/-- variables of `Γ` live between the return address and the current offset and hold their values -/
def VarsOK (w : Nat) (Γ : Gam) (env : Env) (m : Mem) (F o : Nat) : Prop :=
  ∀ x, (Γ.map Prod.fst).contains x = true →
    2 * w ≤ look Γ x ∧ look Γ x ≤ o ∧ m.readLE (F - look Γ x) w = env x

theorem VarsOK.keep {w : Nat} {Γ : Gam} {env : Env} {m m' : Mem} {F o o' a : Nat}
    (h : VarsOK w Γ env m F o) (k : Keep w m m' a) (ha : a ≤ F - o) (hoo : o ≤ o') :
    VarsOK w Γ env m' F o' := by
  intro x hx
  obtain ⟨h1, h2, h3⟩ := h x hx
  exact ⟨h1, by omega, by rw [k.read _ _ (by omega)]; exact h3⟩

theorem pkE_ge (w : Nat) (e : E) : ∀ (o : Nat) (keep : Bool), o ≤ pkE w o e keep := by
  induction e with
  | lit v => intros; simp [pkE]
  | var x => intros; simp [pkE]
  | bin op l r ihl _ => intro o keep; have := ihl o (!isSafe r); simp only [pkE]; omega
  | neg e ih => intro o keep; have := ih o false; simp only [pkE]; omega
  | pos e ih => intro o keep; have := ih o false; simp only [pkE]; omega

theorem valOf_wreg_same (w : Nat) (m : Mem) (F r x : Nat) (hx : x < 256 ^ w) (hr : r + w ≤ m.size) :
    valOf w (m.writeLE r w x) F (.reg r) = x := by
  simp only [valOf]; rw [Mem.readLE_writeLE_same _ _ _ _ hr, Nat.mod_eq_of_lt hx]

/-- a write to `[d, d+w)` does not change what the accessor denotes -/
def Away (w F d : Nat) : Opd → Prop
  | .imm _ => True
  | .reg a => a + w ≤ d ∨ d + w ≤ a
  | .slot s => (F - s) + w ≤ d ∨ d + w ≤ F - s

theorem valOf_write_away (w : Nat) (m : Mem) (F d x : Nat) (u : Opd) (h : Away w F d u) :
    valOf w (m.writeLE d w x) F u = valOf w m F u := by
  cases u with
  | imm i => rfl
  | reg a => simp only [Away] at h; simp only [valOf]; exact Mem.readLE_writeLE_disj _ _ _ _ _ _ (by omega)
  | slot s => simp only [Away] at h; simp only [valOf]; exact Mem.readLE_writeLE_disj _ _ _ _ _ _ (by omega)

/-- what `getOp` can fetch: an operand, or a slot inside the frame -/
def Gettable (w D : Nat) : Opd → Prop
  | .imm _ => True
  | .reg a => a + w ≤ 5 * w
  | .slot s => w ≤ s ∧ s ≤ D

section
variable {p : Prog} {ck : Bool} {B : Nat} {dA : Nat} {pc : Nat} {m : Mem} {F D : Nat}

theorem getOp_ok (hw : 2 ≤ p.w) (fr : Fr p m F D) (r : Nat) (v : Opd)
    (hr : 2 * p.w ≤ r ∧ r + p.w ≤ 5 * p.w) (hv : Gettable p.w D v)
    (h : PlacedAt p pc (getOp (cxOf p ck B dA) r v).1) :
    ∃ m', Reach (sphinx p) ⟨pc, m⟩ [] ⟨pc + (getOp (cxOf p ck B dA) r v).1.length, m'⟩ ∧
      Keep p.w m m' (5 * p.w) ∧
      valOf p.w m' F (getOp (cxOf p ck B dA) r v).2 = valOf p.w m F v ∧
      (∀ u, Away p.w F r u → valOf p.w m' F u = valOf p.w m F u) ∧
      IsArg p.w (getOp (cxOf p ck B dA) r v).2 := by
  cases v with
  | imm i => exact ⟨m, Reach.refl, Keep.refl _ _ _, rfl, fun _ _ => rfl, trivial⟩
  | reg a => exact ⟨m, Reach.refl, Keep.refl _ _ _, rfl, fun _ _ => rfl, hv⟩
  | slot s =>
    obtain ⟨hs0, hsD⟩ := hv
    have hroom := fr.room; have htop := fr.top
    refine ⟨m.writeLE r p.w (m.readLE (F - s) p.w), ?_, ?_, ?_, ?_, ?_⟩
    · simpa [getOp] using ld_reach hw fr r s (by simpa [getOp] using h) hs0 hsD hr.2
    · exact Keep.write _ _ _ _ _ _ hr.1 hr.2
    · simp only [getOp]
      exact valOf_wreg_same _ _ _ _ _ (Mem.readLE_lt _ _ _) (by omega)
    · intro u hu; exact valOf_write_away _ _ _ _ _ _ hu
    · simp only [getOp, IsArg]; omega

theorem aluOp_none {M n : Nat} {op : AOp} {x y : Nat} (h : aluOp M n (aluOf op) x y = none) :
    needsGuard op = true ∧ y % M = 0 := by
  cases op <;> simp [aluOf, aluOp, needsGuard] at h ⊢ <;> exact h

theorem aluOp_guard {M n : Nat} {op : AOp} {x y z : Nat} (h : aluOp M n (aluOf op) x y = some z)
    (hg : needsGuard op = true) : y % M ≠ 0 := by
  cases op <;> simp [aluOf, aluOp, needsGuard] at h hg ⊢ <;> exact h.1


theorem arith_ok (lib : Placed p B) (fr : Fr p m F D) (op : AOp) (rout : Nat) (va vb : Opd) (x y : Nat)
    (hrout : 2 * p.w ≤ rout ∧ rout + p.w ≤ 5 * p.w)
    (ha : IsArg p.w va) (hb : IsArg p.w vb) (hx : valOf p.w m F va = x) (hy : valOf p.w m F vb = y)
    (h : PlacedAt p pc (arith (cxOf p ck B dA) pc op rout (va.arg (cxOf p ck B dA)) (vb.arg (cxOf p ck B dA))))
    (hB : pc + (arith (cxOf p ck B dA) pc op rout (va.arg (cxOf p ck B dA)) (vb.arg (cxOf p ck B dA))).length ≤ B) :
    (∀ z, aluOp (256 ^ p.w) (8 * p.w) (aluOf op) x y = some z →
      Reach (sphinx p) ⟨pc, m⟩ []
        ⟨pc + (arith (cxOf p ck B dA) pc op rout (va.arg (cxOf p ck B dA)) (vb.arg (cxOf p ck B dA))).length,
         m.writeLE rout p.w z⟩) ∧
    (aluOp (256 ^ p.w) (8 * p.w) (aluOf op) x y = none → ck = true →
      Reach (sphinx p) ⟨pc, m⟩ [] ⟨B + off_division_by_zero, m⟩) := by
  have hw := lib.hw
  have h64 := mul_w_lt_pow p.w hw
  have hroom := fr.room; have htop := fr.top
  have ea : ∀ pc, evalArg p ⟨pc, m⟩ (va.arg (cxOf p ck B dA)) = some x := fun pc => hx ▸ ev_arg_any hw fr pc va ha
  have eb : ∀ pc, evalArg p ⟨pc, m⟩ (vb.arg (cxOf p ck B dA)) = some y := fun pc => hy ▸ ev_arg_any hw fr pc vb hb
  have hBlt := lib.hB
  by_cases hg : (needsGuard op && ck) = true
  · -- guarded: `j pc+4; hne b 0; j division_by_zero; h; op`
    simp only [arith, hg, if_true] at h hB ⊢
    obtain ⟨c0, h⟩ := placed_cons h; obtain ⟨c1, h⟩ := placed_cons h; obtain ⟨c2, h⟩ := placed_cons h
    obtain ⟨c3, h⟩ := placed_cons h; obtain ⟨c4, _⟩ := placed_cons h
    simp only [List.length_cons, List.length_nil] at hB
    have s0 := step_j (m := m) c0 (ev_imm (pc + 4))
    rw [show (pc + 4) % p.M = pc + 4 from Nat.mod_eq_of_lt (by unfold Prog.M; omega)] at s0
    have s1 := step_hcond (m := m) c1 (eb _) (ev_imm 0)
    simp only [haltCond, Nat.zero_mod] at s1
    have hyM : y < 256 ^ p.w := hy ▸ valOf_lt _ _ _ _
    refine ⟨fun z hz => ?_, fun hn hck => ?_⟩
    · have hy0 : y % 256 ^ p.w ≠ 0 := aluOp_guard hz (by simpa using (Bool.and_eq_true _ _ ▸ hg).1)
      have hyne : y ≠ 0 := by intro h0; rw [h0] at hy0; simp at hy0
      simp [hyne] at s1
      have j := Reach.jump_taken (sys := sphinx p) s0 s1
      have s4 := fr.step_alu hw c4 (ea _) (eb _) hz hrout.2
      exact reach_seq j (Reach.of_next (sys := sphinx p) s4)
    · have hy0 := (aluOp_none hn).2
      have hy00 : y = 0 := by rwa [Nat.mod_eq_of_lt hyM] at hy0
      simp [hy00] at s1
      have s2 := step_j (m := m) c2 (ev_imm (B + off_division_by_zero))
      rw [stub_lt lib (by decide)] at s2
      have s3 := step_halt (m := m) c3
      have j2 : Reach (sphinx p) ⟨pc + 1 + 1, m⟩ [] ⟨B + off_division_by_zero, m⟩ :=
        Reach.jump_taken (sys := sphinx p) s2 s3
      -- the stub never halts, so the jump over the guard is not taken
      have nh : ¬ Halts (sphinx p) ⟨pc + 1 + 1, m⟩ := (j2.exec (terminal_never_halts lib m).2.2.2.1).2
      exact reach_seq (Reach.jump_fallthrough (sys := sphinx p) s0 s1 (fun hh => absurd hh nh)) j2
  · simp only [arith, hg] at h hB ⊢
    refine ⟨fun z hz => ?_, fun hn hck => ?_⟩
    · exact Reach.of_next (sys := sphinx p) (fr.step_alu hw (placed_one h) (ea _) (eb _) hz hrout.2)
    · exfalso
      have := (aluOp_none hn).1
      simp [this, hck] at hg
end

/-- where `cE … rout` leaves its result: an immediate, the register `rout`, or a frame slot up to offset `o1` -/
def Loc (w D o1 rout : Nat) : Opd → Prop
  | .imm _ => True
  | .reg a => a = rout
  | .slot s => w ≤ s ∧ s ≤ D ∧ s ≤ o1

theorem pkE_keep_ge (w : Nat) (e : E) (o : Nat) (h : isSafe e = false) : o + w ≤ pkE w o e true := by
  cases e <;> first | (simp only [pkE, if_true]; omega) | cases h

theorem cE_loc (cx : Cx) (Γ : Gam) (env : Env) (m : Mem) (F D : Nat) (e : E) (pc o rout : Nat) (keep : Bool)
    (hvars : VarsOK cx.w Γ env m F o) (hb : boundE (Γ.map Prod.fst) e = true)
    (hpk : pkE cx.w o e keep ≤ D) (ho : cx.w ≤ o) :
    (cE cx Γ pc o rout e keep).2.2 = (keep && !isSafe e) ∧
    Loc cx.w D (if (cE cx Γ pc o rout e keep).2.2 then o + cx.w else o) rout (cE cx Γ pc o rout e keep).2.1 ∧
    (keep = true → ∀ a, (cE cx Γ pc o rout e keep).2.1 ≠ .reg a) := by
  rw [cE_opd, cE_pushed]
  cases hs : isSafe e with
  | true =>
    cases e with
    | lit v => exact ⟨by cases keep <;> rfl, trivial, fun _ _ h => nomatch h⟩
    | var x =>
      obtain ⟨h1, h2, _⟩ := hvars x hb
      have := pkE_ge cx.w (.var x) o keep
      exact ⟨by cases keep <;> rfl, ⟨by omega, by omega, h2⟩, fun _ _ h => nomatch h⟩
    | bin op l r => cases hs
    | neg e => cases hs
    | pos e => cases hs
  | false =>
    rw [shape_compound cx Γ o rout keep hs]
    cases keep with
    | false => exact ⟨rfl, rfl, fun h => nomatch h⟩
    | true =>
      have := pkE_keep_ge cx.w e o hs
      exact ⟨rfl, ⟨by omega, by omega, Nat.le_refl _⟩, fun _ _ h => nomatch h⟩

section
variable {p : Prog} {ck : Bool} {B : Nat} {dA : Nat} {pc : Nat} {m : Mem} {F D : Nat}

theorem slot_bounds {w D F o : Nat} (hroom : 5 * w + D = F) (hoD : o + w ≤ D) :
    2 * w ≤ F - (o + w) ∧ F - (o + w) + w ≤ F - o := by omega

theorem finish_ok (hw : 2 ≤ p.w) (fr : Fr p m F D) (o rout : Nat) (keep : Bool) (c : List Instr) (m1 : Mem) (v : Nat)
    (hrout : 2 * p.w ≤ rout ∧ rout + p.w ≤ 5 * p.w)
    (hpl : PlacedAt p pc (finish (cxOf p ck B dA) o rout keep c).1)
    (hreach : Reach (sphinx p) ⟨pc, m⟩ [] ⟨pc + c.length, m1⟩) (hk : Keep p.w m m1 (F - o))
    (hv : m1.readLE rout p.w = v) (ho : p.w ≤ o) (hD : keep = true → o + p.w ≤ D) :
    ∃ m', Reach (sphinx p) ⟨pc, m⟩ [] ⟨pc + (finish (cxOf p ck B dA) o rout keep c).1.length, m'⟩ ∧
      Keep p.w m m' (F - o) ∧ valOf p.w m' F (finish (cxOf p ck B dA) o rout keep c).2.1 = v := by
  cases keep with
  | false => exact ⟨m1, hreach, hk, hv⟩
  | true =>
    have hoD' := hD rfl
    have fr1 := fr.keep hk
    have sb := slot_bounds fr.room hoD'
    simp only [finish, if_true] at hpl ⊢
    have e := fr1.ev_st (pc := pc + c.length) hw hrout.2
    rw [hv] at e
    have st := st_reach hw fr1 (o + p.w) (.st rout) v hpl.append.2 e (Nat.le_add_left _ _) hoD'
    refine ⟨m1.writeLE (F - (o + p.w)) p.w v, reach_append hreach st,
      hk.trans' (Keep.write _ _ _ _ _ _ sb.1 sb.2), ?_⟩
    simp only [valOf]
    rw [Mem.readLE_writeLE_same _ _ _ _ (by rw [hk.size]; exact Nat.le_trans sb.2 (Nat.le_trans (Nat.sub_le _ _) fr.top))]
    exact Nat.mod_eq_of_lt (by rw [← hv]; exact Mem.readLE_lt _ _ _)

theorem finish_wr (hw : 2 ≤ p.w) (fr : Fr p m F D) (o rout : Nat) (keep : Bool) (c : List Instr) (m1 : Mem) (v : Nat)
    (hrout : 2 * p.w ≤ rout ∧ rout + p.w ≤ 5 * p.w)
    (hpl : PlacedAt p pc (finish (cxOf p ck B dA) o rout keep c).1)
    (hreach : Reach (sphinx p) ⟨pc, m⟩ [] ⟨pc + c.length, m1.writeLE rout p.w v⟩) (hk : Keep p.w m m1 (F - o))
    (hv : v < 256 ^ p.w) (ho : p.w ≤ o) (hD : keep = true → o + p.w ≤ D) (hoD : o ≤ D) :
    ∃ m', Reach (sphinx p) ⟨pc, m⟩ [] ⟨pc + (finish (cxOf p ck B dA) o rout keep c).1.length, m'⟩ ∧
      Keep p.w m m' (F - o) ∧ valOf p.w m' F (finish (cxOf p ck B dA) o rout keep c).2.1 = v := by
  refine finish_ok hw fr o rout keep c _ v hrout hpl hreach
    (hk.trans' (Keep.write _ _ _ _ _ _ hrout.1
      (Nat.le_trans hrout.2 (Nat.le_sub_of_add_le (fr.room ▸ Nat.add_le_add_left hoD _))))) ?_ ho hD
  rw [Mem.readLE_writeLE_same _ _ _ _ (by rw [hk.size]; exact (fr.reg_ok hw hrout.2).2)]; exact Nat.mod_eq_of_lt hv
end

theorem finish_prefix {p : Prog} {pc : Nat} (cx : Cx) (o rout : Nat) (keep : Bool) (c : List Instr)
    (h : PlacedAt p pc (finish cx o rout keep c).1) :
    PlacedAt p pc c ∧ c.length ≤ (finish cx o rout keep c).1.length := by
  cases keep
  · exact ⟨h, Nat.le_refl _⟩
  · simp only [finish, if_true] at h ⊢
    exact ⟨h.append.1, by simp⟩

theorem Loc.gettable {w D o1 rout : Nat} {v : Opd} (h : Loc w D o1 rout v) (hr : rout + w ≤ 5 * w) :
    Gettable w D v := by
  cases v with
  | imm i => trivial
  | reg a => exact (show a = rout from h) ▸ hr
  | slot s => exact ⟨h.1, h.2.1⟩

theorem Loc.away {w D o1 rout d F : Nat} {v : Opd} (h : Loc w D o1 rout v)
    (hd : rout + w ≤ d ∨ d + w ≤ rout) (hF : 5 * w + D ≤ F) (hd5 : d + w ≤ 5 * w) : Away w F d v := by
  cases v with
  | imm i => trivial
  | reg a => simp only [Loc] at h; simp only [Away]; omega
  | slot s => simp only [Loc] at h; simp only [Away]; omega

theorem getOp_res (cx : Cx) {w D o1 r : Nat} {v : Opd} (h : Loc w D o1 r v) :
    (∃ i, (getOp cx r v).2 = .imm i) ∨ (getOp cx r v).2 = .reg r := by
  cases v with
  | imm i => exact Or.inl ⟨i, rfl⟩
  | reg a => simp only [Loc] at h; subst h; exact Or.inr rfl
  | slot s => exact Or.inr rfl

section
variable {p : Prog} {ck : Bool} {B : Nat} {dA : Nat}

/-- what `cE_ok` says of one expression -/
def EOk (p : Prog) (ck : Bool) (B dA : Nat) (Γ : Gam) (env : Env) (F D : Nat) (e : E) : Prop :=
  ∀ (pc o rout : Nat) (keep : Bool) (m : Mem),
    PlacedAt p pc (cE (cxOf p ck B dA) Γ pc o rout e keep).1 →
    pc + (cE (cxOf p ck B dA) Γ pc o rout e keep).1.length ≤ B →
    (rout = 2 * p.w ∨ rout = 3 * p.w) →
    Fr p m F D → VarsOK p.w Γ env m F o → boundE (Γ.map Prod.fst) e = true →
    pkE p.w o e keep ≤ D → p.w ≤ o →
    (∀ v, evalE (256 ^ p.w) (8 * p.w) env e = some v →
      ∃ m', Reach (sphinx p) ⟨pc, m⟩ [] ⟨pc + (cE (cxOf p ck B dA) Γ pc o rout e keep).1.length, m'⟩ ∧
        Keep p.w m m' (F - o) ∧ valOf p.w m' F (cE (cxOf p ck B dA) Γ pc o rout e keep).2.1 = v ∧
        (isSafe e = true → m' = m)) ∧
    (evalE (256 ^ p.w) (8 * p.w) env e = none → ck = true →
      ∃ m', Reach (sphinx p) ⟨pc, m⟩ [] ⟨B + off_division_by_zero, m'⟩)

theorem gV_reg (Γ : Gam) (env : Env) (m : Mem) (F D : Nat) (e : E) (pc o r : Nat)
    (hvars : VarsOK p.w Γ env m F o) (hb : boundE (Γ.map Prod.fst) e = true) (hpk : pkE p.w o e false ≤ D) (ho : p.w ≤ o) :
    (∃ i, (gV (cxOf p ck B dA) Γ pc o r e).2 = .imm i) ∨ (gV (cxOf p ck B dA) Γ pc o r e).2 = .reg r := by
  obtain ⟨hp0, hloc0, _⟩ := cE_loc (cxOf p ck B dA) Γ env m F D e pc o r false hvars hb hpk ho
  rw [hp0] at hloc0
  exact getOp_res (cxOf p ck B dA) hloc0

/-- `get_expr_value(r, e)`; when `e` is a literal or a variable only `[r]` may have changed -/
theorem gV_run (lib : Placed p B) {Γ : Gam} {env : Env} {F D : Nat} {e : E} (he : EOk p ck B dA Γ env F D e)
    (pc o r : Nat) (m : Mem)
    (hpl : PlacedAt p pc (gV (cxOf p ck B dA) Γ pc o r e).1)
    (hB : pc + (gV (cxOf p ck B dA) Γ pc o r e).1.length ≤ B)
    (hr : r = 2 * p.w ∨ r = 3 * p.w) (fr : Fr p m F D) (hvars : VarsOK p.w Γ env m F o)
    (hb : boundE (Γ.map Prod.fst) e = true) (hpk : pkE p.w o e false ≤ D) (ho : p.w ≤ o) :
    (∀ v, evalE (256 ^ p.w) (8 * p.w) env e = some v →
      ∃ m', Reach (sphinx p) ⟨pc, m⟩ [] ⟨pc + (gV (cxOf p ck B dA) Γ pc o r e).1.length, m'⟩ ∧
        Keep p.w m m' (F - o) ∧ IsArg p.w (gV (cxOf p ck B dA) Γ pc o r e).2 ∧
        valOf p.w m' F (gV (cxOf p ck B dA) Γ pc o r e).2 = v ∧
        (isSafe e = true → ∀ u, Away p.w F r u → valOf p.w m' F u = valOf p.w m F u)) ∧
    (evalE (256 ^ p.w) (8 * p.w) env e = none → ck = true →
      ∃ m', Reach (sphinx p) ⟨pc, m⟩ [] ⟨B + off_division_by_zero, m'⟩) := by
  have hw := lib.hw
  have hroom := fr.room
  have hoD : o ≤ D := Nat.le_trans (pkE_ge p.w e o false) hpk
  have hr5 : 2 * p.w ≤ r ∧ r + p.w ≤ 5 * p.w := hr.elim (fun h => h ▸ r0_ok p.w) (fun h => h ▸ r1_ok p.w)
  rw [gV_eq] at hpl hB ⊢
  simp only [List.length_append] at hB
  obtain ⟨hpl1, hpl2⟩ := hpl.append
  obtain ⟨hp0, hloc0, _⟩ := cE_loc (cxOf p ck B dA) Γ env m F D e pc o r false hvars hb hpk ho
  rw [hp0] at hloc0
  have ih := he pc o r false m hpl1 (Nat.le_trans (Nat.add_le_add_left (Nat.le_add_right _ _) _) hB) hr fr hvars hb hpk ho
  refine ⟨fun v hv => ?_, ih.2⟩
  obtain ⟨m1, r1, k1, hv1, hsafe⟩ := ih.1 v hv
  obtain ⟨m2, r2, k2, hv2, haway, harg⟩ := getOp_ok hw (fr.keep k1) r _ hr5
    (hloc0.gettable hr5.2) hpl2
  exact ⟨m2, reach_append r1 r2, k1.trans' (k2.mono (Nat.le_sub_of_add_le (hroom ▸ Nat.add_le_add_left hoD _))), harg, by rw [hv2, hv1],
    fun hs u hu => by rw [haway u hu, hsafe hs]⟩

theorem opnds_ok (lib : Placed p B) {Γ : Gam} {env : Env} {F D : Nat} {l r : E}
    (hl : EOk p ck B dA Γ env F D l) (hr : EOk p ck B dA Γ env F D r) (pc o : Nat) (m : Mem)
    (hpl : PlacedAt p pc (opnds (cxOf p ck B dA) Γ pc o l r))
    (hB : pc + (opnds (cxOf p ck B dA) Γ pc o l r).length ≤ B)
    (fr : Fr p m F D) (hvars : VarsOK p.w Γ env m F o)
    (hbl : boundE (Γ.map Prod.fst) l = true) (hbr : boundE (Γ.map Prod.fst) r = true)
    (hpkl : pkE p.w o l (!isSafe r) ≤ D)
    (hpkr : pkE p.w (if ((!isSafe r) && !isSafe l) = true then o + p.w else o) r false ≤ D) (ho : p.w ≤ o) :
    (∀ a b, evalE (256 ^ p.w) (8 * p.w) env l = some a → evalE (256 ^ p.w) (8 * p.w) env r = some b →
      ∃ m4, Reach (sphinx p) ⟨pc, m⟩ [] ⟨pc + (opnds (cxOf p ck B dA) Γ pc o l r).length, m4⟩ ∧
        Keep p.w m m4 (F - o) ∧
        IsArg p.w (opndL (cxOf p ck B dA) Γ pc o l r) ∧ IsArg p.w (opndR (cxOf p ck B dA) Γ pc o l r) ∧
        valOf p.w m4 F (opndL (cxOf p ck B dA) Γ pc o l r) = a ∧
        valOf p.w m4 F (opndR (cxOf p ck B dA) Γ pc o l r) = b) ∧
    ((evalE (256 ^ p.w) (8 * p.w) env l = none ∨
      (∃ a, evalE (256 ^ p.w) (8 * p.w) env l = some a ∧ evalE (256 ^ p.w) (8 * p.w) env r = none)) → ck = true →
      ∃ m', Reach (sphinx p) ⟨pc, m⟩ [] ⟨B + off_division_by_zero, m'⟩) := by
  have hw := lib.hw
  have hroom := fr.room
  have hoD : o ≤ D := Nat.le_trans (pkE_ge p.w l o (!isSafe r)) hpkl
  obtain ⟨hp1, hlocl, hnoreg⟩ := cE_loc (cxOf p ck B dA) Γ env m F D l pc o (cxOf p ck B dA).r0 (!isSafe r) hvars hbl hpkl ho
  unfold opnds at hpl hB
  unfold opnds opndL opndR
  simp only [List.length_append] at hB
  obtain ⟨hpl12, hpl3⟩ := hpl.append
  obtain ⟨hpl1, hpl2⟩ := hpl12.append
  have ihl := hl pc o (cxOf p ck B dA).r0 (!isSafe r) m hpl1 (Nat.le_trans (Nat.add_le_add_left (Nat.le_trans (Nat.le_add_right _ _) (Nat.le_add_right _ _)) _) hB) (Or.inl rfl) fr hvars hbl hpkl ho
  -- the right operand is evaluated at the offset behind the kept left operand
  generalize (cE (cxOf p ck B dA) Γ pc o (cxOf p ck B dA).r0 l (!isSafe r)) = L at *
  have ho1 : o ≤ (if L.2.2 = true then o + p.w else o) := by split <;> first | exact Nat.le_add_right _ _ | exact Nat.le_refl _
  have hpkr' : pkE p.w (if L.2.2 = true then o + p.w else o) r false ≤ D := by rw [hp1]; exact hpkr
  have right : ∀ m1, Keep p.w m m1 (F - o) → _ := fun m1 k1 =>
    gV_run lib hr (pc + L.1.length) (if L.2.2 = true then o + p.w else o) (cxOf p ck B dA).r1 m1 hpl2
      (by rw [Nat.add_assoc]; exact Nat.le_trans (Nat.add_le_add_left (Nat.le_add_right _ _) _) hB)
      (Or.inr rfl) (fr.keep k1) (hvars.keep k1 (Nat.le_refl _) ho1) hbr hpkr' (Nat.le_trans ho ho1)
  have hres := gV_reg (ck := ck) (B := B) (dA := dA) Γ env m F D r (pc + L.1.length)
    (if L.2.2 = true then o + p.w else o) (cxOf p ck B dA).r1
    (hvars.keep (Keep.refl _ _ (F - o)) (Nat.le_refl _) ho1) hbr hpkr' (Nat.le_trans ho ho1)
  generalize (gV (cxOf p ck B dA) Γ (pc + L.1.length) (if L.2.2 = true then o + (cxOf p ck B dA).w else o)
    (cxOf p ck B dA).r1 r) = G at *
  refine ⟨fun a b hea heb => ?_, fun hn hck => ?_⟩
  · obtain ⟨m1, r1, k1, hv1, _⟩ := ihl.1 a hea
    obtain ⟨m3, r3, k3, hargr, hv3, hsafe⟩ := (right m1 k1).1 b heb
    -- the left operand survives the evaluation of the right one
    have hvl3 : valOf p.w m3 F L.2.1 = a := by
      cases hsr : isSafe r with
      | true => rw [hsafe hsr _ (hlocl.away (d := 3 * p.w) (Or.inl (r0_r1 p.w)) (Nat.le_of_eq hroom) (r1_ok p.w).2)]; exact hv1
      | false =>
        have hnr := hnoreg (by rw [hsr]; rfl)
        revert hv1 hlocl hnr
        cases L.2.1 with
        | imm i => exact fun _ h _ => h
        | reg x => exact fun _ _ h => absurd rfl (h x)
        | slot s => exact fun hl h _ => by rw [← h]; exact k3.read _ _ (Nat.sub_le_sub_left hl.2.2 F)
    obtain ⟨m4, r4, k4, hv4, haway4, hargl⟩ := getOp_ok hw ((fr.keep k1).keep k3)
      (cxOf p ck B dA).r0 L.2.1 (r0_ok p.w)
      (hlocl.gettable (r0_ok p.w).2) hpl3
    refine ⟨m4, reach_append (reach_append r1 r3) r4,
      (k1.trans' (k3.mono (Nat.sub_le_sub_left ho1 F))).trans' (k4.mono (Nat.le_sub_of_add_le (hroom ▸ Nat.add_le_add_left hoD _))), hargl, hargr, by rw [hv4, hvl3], ?_⟩
    rw [haway4 G.2 (by
      rcases hres with ⟨i, hi⟩ | hi
      · rw [hi]; trivial
      · rw [hi]; exact Or.inr (r0_r1 p.w))]
    exact hv3
  · rcases hn with hea | ⟨a, hea, heb⟩
    · exact ihl.2 hea hck
    · obtain ⟨m1, r1, k1, _⟩ := ihl.1 a hea
      obtain ⟨m', rd⟩ := (right m1 k1).2 heb hck
      exact ⟨m', reach_seq r1 rd⟩

theorem eOk (lib : Placed p B) (Γ : Gam) (env : Env) (F D : Nat) (e : E) : EOk p ck B dA Γ env F D e := by
  have hw := lib.hw
  have hM : 0 < 256 ^ p.w := Nat.pow_pos (by decide)
  induction e with
  | lit v =>
    intro pc o rout keep m _ _ _ _ _ _ _ _
    exact ⟨fun v' hv' => ⟨m, Reach.refl, Keep.refl _ _ _, Option.some.inj hv', fun _ => rfl⟩, fun h => nomatch h⟩
  | var x =>
    intro pc o rout keep m _ _ _ _ hvars hb _ _
    refine ⟨fun v' hv' => ⟨m, Reach.refl, Keep.refl _ _ _, ?_, fun _ => rfl⟩, fun h => nomatch h⟩
    exact ((hvars x hb).2.2).trans (Option.some.inj hv')
  | neg e ih =>
    intro pc o rout keep m hpl hB hrout fr hvars hb hpk ho
    have hr5 : 2 * p.w ≤ rout ∧ rout + p.w ≤ 5 * p.w := hrout.elim (fun h => h ▸ r0_ok p.w) (fun h => h ▸ r1_ok p.w)
    have hge := pkE_ge p.w e o false
    simp only [pkE, Nat.max_le] at hpk
    have hkD : keep = true → o + p.w ≤ D := fun hk => by subst hk; exact hpk.2
    rw [cE_neg] at hpl hB ⊢
    obtain ⟨hplc, hlen⟩ := finish_prefix _ _ _ _ _ hpl
    obtain ⟨hplG, hplA⟩ := hplc.append
    simp only [List.length_append] at hlen
    have hg := gV_run lib ih pc o rout m hplG (Nat.le_trans (Nat.add_le_add_left (Nat.le_trans (Nat.le_add_right _ _) hlen) pc) hB) hrout fr hvars hb hpk.1 ho
    refine ⟨fun v hv => ?_, fun hn hck => hg.2 (evalE_neg_none.1 hn) hck⟩
    obtain ⟨a, hea, hv⟩ := evalE_neg_some.1 hv
    obtain ⟨m2, r2, k2, harg, hv2, _⟩ := hg.1 a hea
    have eb := ev_arg_any (ck := ck) (dA := dA) (B := B) hw (fr.keep k2) (pc + (gV (cxOf p ck B dA) Γ pc o rout e).1.length) _ harg
    rw [hv2] at eb
    have s := (fr.keep k2).step_alu hw (placed_one hplA) (ev_imm 0) eb (r := v) (by rw [Nat.zero_mod]; exact hv) hr5.2
    obtain ⟨m', rf, kf, hvf⟩ := finish_wr hw fr o rout keep _ m2 v hr5 hpl
      (reach_append r2 (Reach.of_next (sys := sphinx p) s)) k2 (aluOp_lt hM hv) ho hkD (Nat.le_trans hge hpk.1)
    exact ⟨m', rf, kf, hvf, fun hs => nomatch hs⟩
  | pos e ih =>
    intro pc o rout keep m hpl hB hrout fr hvars hb hpk ho
    have hr5 : 2 * p.w ≤ rout ∧ rout + p.w ≤ 5 * p.w := hrout.elim (fun h => h ▸ r0_ok p.w) (fun h => h ▸ r1_ok p.w)
    have hge := pkE_ge p.w e o false
    simp only [pkE, Nat.max_le] at hpk
    have hkD : keep = true → o + p.w ≤ D := fun hk => by subst hk; exact hpk.2
    rw [cE_pos] at hpl hB ⊢
    obtain ⟨hplc, hlen⟩ := finish_prefix _ _ _ _ _ hpl
    obtain ⟨hplG, hplA⟩ := hplc.append
    simp only [List.length_append] at hlen
    have hg := gV_run lib ih pc o rout m hplG (Nat.le_trans (Nat.add_le_add_left (Nat.le_trans (Nat.le_add_right _ _) hlen) pc) hB) hrout fr hvars hb hpk.1 ho
    refine ⟨fun v hv => ?_, hg.2⟩
    obtain ⟨m2, r2, k2, harg, hv2, _⟩ := hg.1 v hv
    by_cases hvr : (gV (cxOf p ck B dA) Γ pc o rout e).2 = .reg rout
    · -- the value is already in the output register
      rw [if_pos hvr, List.append_nil] at hpl ⊢
      rw [hvr] at hv2
      obtain ⟨m', rf, kf, hvf⟩ := finish_ok hw fr o rout keep _ m2 v hr5 hpl r2 k2 hv2 ho hkD
      exact ⟨m', rf, kf, hvf, fun hs => nomatch hs⟩
    · rw [if_neg hvr] at hpl hplA ⊢
      have eb := ev_arg_any (ck := ck) (dA := dA) (B := B) hw (fr.keep k2) (pc + (gV (cxOf p ck B dA) Γ pc o rout e).1.length) _ harg
      rw [hv2] at eb
      have s := (fr.keep k2).step_mov hw (placed_one hplA) eb hr5.2
      obtain ⟨m', rf, kf, hvf⟩ := finish_wr hw fr o rout keep _ m2 v hr5 hpl
        (reach_append r2 (Reach.of_next (sys := sphinx p) s)) k2 (hv2 ▸ valOf_lt _ _ _ _) ho hkD (Nat.le_trans hge hpk.1)
      exact ⟨m', rf, kf, hvf, fun hs => nomatch hs⟩
  | bin op l r ihl ihr =>
    intro pc o rout keep m hpl hB hrout fr hvars hb hpk ho
    simp only [boundE, Bool.and_eq_true] at hb
    have hr5 : 2 * p.w ≤ rout ∧ rout + p.w ≤ 5 * p.w := hrout.elim (fun h => h ▸ r0_ok p.w) (fun h => h ▸ r1_ok p.w)
    have hge := pkE_ge p.w l o (!isSafe r)
    simp only [pkE, Nat.max_le] at hpk
    have hkD : keep = true → o + p.w ≤ D := fun hk => by subst hk; exact hpk.2
    rw [cE_bin] at hpl hB ⊢
    obtain ⟨hplc, hlen⟩ := finish_prefix _ _ _ _ _ hpl
    obtain ⟨hplO, hplA⟩ := hplc.append
    simp only [List.length_append] at hlen
    have hops := opnds_ok lib ihl ihr pc o m hplO (Nat.le_trans (Nat.add_le_add_left (Nat.le_trans (Nat.le_add_right _ _) hlen) pc) hB) fr hvars hb.1 hb.2 hpk.1.1 hpk.1.2 ho
    have harith := fun m4 (k4 : Keep p.w m m4 (F - o)) a b hargl hargr hvl hvr =>
      arith_ok (pc := pc + (opnds (cxOf p ck B dA) Γ pc o l r).length) lib (fr.keep k4) op rout
        (opndL (cxOf p ck B dA) Γ pc o l r) (opndR (cxOf p ck B dA) Γ pc o l r) a b hr5 hargl hargr hvl hvr hplA (by rw [Nat.add_assoc]; exact Nat.le_trans (Nat.add_le_add_left hlen pc) hB)
    refine ⟨fun v hv => ?_, fun hn hck => ?_⟩
    · obtain ⟨a, b, hea, heb, hv⟩ := evalE_bin_some.1 hv
      obtain ⟨m4, r4, k4, hargl, hargr, hvl, hvr⟩ := hops.1 a b hea heb
      have r5 := (harith m4 k4 a b hargl hargr hvl hvr).1 v hv
      obtain ⟨m', rf, kf, hvf⟩ := finish_wr hw fr o rout keep _ m4 v hr5 hpl
        (reach_append r4 r5) k4 (aluOp_lt hM hv) ho hkD (Nat.le_trans hge hpk.1.1)
      exact ⟨m', rf, kf, hvf, fun hs => nomatch hs⟩
    · rcases evalE_bin_none.1 hn with hea | ⟨a, hea, heb | ⟨b, heb, hn⟩⟩
      · exact hops.2 (Or.inl hea) hck
      · exact hops.2 (Or.inr ⟨a, hea, heb⟩) hck
      · obtain ⟨m4, r4, k4, hargl, hargr, hvl, hvr⟩ := hops.1 a b hea heb
        exact ⟨m4, reach_seq r4 ((harith m4 k4 a b hargl hargr hvl hvr).2 hn hck)⟩

theorem cE_ok (lib : Placed p B) (Γ : Gam) (env : Env) (F D : Nat) :
    ∀ (e : E) (pc o rout : Nat) (keep : Bool) (m : Mem),
      PlacedAt p pc (cE (cxOf p ck B dA) Γ pc o rout e keep).1 →
      pc + (cE (cxOf p ck B dA) Γ pc o rout e keep).1.length ≤ B →
      (rout = 2 * p.w ∨ rout = 3 * p.w) →
      Fr p m F D → VarsOK p.w Γ env m F o → boundE (Γ.map Prod.fst) e = true →
      pkE p.w o e keep ≤ D → p.w ≤ o →
      (∀ v, evalE (256 ^ p.w) (8 * p.w) env e = some v →
        ∃ m', Reach (sphinx p) ⟨pc, m⟩ [] ⟨pc + (cE (cxOf p ck B dA) Γ pc o rout e keep).1.length, m'⟩ ∧
          Keep p.w m m' (F - o) ∧ valOf p.w m' F (cE (cxOf p ck B dA) Γ pc o rout e keep).2.1 = v ∧
          (isSafe e = true → m' = m)) ∧
      (evalE (256 ^ p.w) (8 * p.w) env e = none → ck = true →
        ∃ m', Reach (sphinx p) ⟨pc, m⟩ [] ⟨B + off_division_by_zero, m'⟩) :=
  eOk lib Γ env F D
theorem gV_ok (lib : Placed p B) (Γ : Gam) (env : Env) (F D : Nat) (e : E) (pc o r : Nat) (m : Mem)
    (hpl : PlacedAt p pc (gV (cxOf p ck B dA) Γ pc o r e).1)
    (hB : pc + (gV (cxOf p ck B dA) Γ pc o r e).1.length ≤ B)
    (hr : r = 2 * p.w ∨ r = 3 * p.w) (fr : Fr p m F D) (hvars : VarsOK p.w Γ env m F o)
    (hb : boundE (Γ.map Prod.fst) e = true) (hpk : pkE p.w o e false ≤ D) (ho : p.w ≤ o) :
    (∀ v, evalE (256 ^ p.w) (8 * p.w) env e = some v →
      ∃ m', Reach (sphinx p) ⟨pc, m⟩ [] ⟨pc + (gV (cxOf p ck B dA) Γ pc o r e).1.length, m'⟩ ∧
        Keep p.w m m' (F - o) ∧ IsArg p.w (gV (cxOf p ck B dA) Γ pc o r e).2 ∧
        valOf p.w m' F (gV (cxOf p ck B dA) Γ pc o r e).2 = v) ∧
    (evalE (256 ^ p.w) (8 * p.w) env e = none → ck = true →
      ∃ m', Reach (sphinx p) ⟨pc, m⟩ [] ⟨B + off_division_by_zero, m'⟩) := by
  have h := gV_run lib (eOk lib Γ env F D e) pc o r m hpl hB hr fr hvars hb hpk ho
  exact ⟨fun v hv => let ⟨m', r, k, ha, hv', _⟩ := h.1 v hv; ⟨m', r, k, ha, hv'⟩, h.2⟩

theorem pushE_ok (lib : Placed p B) (Γ : Gam) (env : Env) (F D : Nat) (e : E) (pc o : Nat) (m : Mem)
    (hpl : PlacedAt p pc (pushE (cxOf p ck B dA) Γ pc o e))
    (hB : pc + (pushE (cxOf p ck B dA) Γ pc o e).length ≤ B)
    (fr : Fr p m F D) (hvars : VarsOK p.w Γ env m F o)
    (hb : boundE (Γ.map Prod.fst) e = true) (hpk : pkPush p.w o e ≤ D) (ho : p.w ≤ o) :
    (∀ v, evalE (256 ^ p.w) (8 * p.w) env e = some v →
      ∃ m', Reach (sphinx p) ⟨pc, m⟩ [] ⟨pc + (pushE (cxOf p ck B dA) Γ pc o e).length, m'⟩ ∧
        Keep p.w m m' (F - o) ∧ m'.readLE (F - (o + p.w)) p.w = v) ∧
    (evalE (256 ^ p.w) (8 * p.w) env e = none → ck = true →
      ∃ m', Reach (sphinx p) ⟨pc, m⟩ [] ⟨B + off_division_by_zero, m'⟩) := by
  have hw := lib.hw
  have hroom := fr.room
  have hpk1 : pkE p.w o e true ≤ D := Nat.le_trans (Nat.le_max_left _ _) hpk
  have hoD : o + p.w ≤ D := Nat.le_trans (Nat.le_max_right _ _) hpk
  cases hs : isSafe e with
  | false =>
    rw [pushE_compound _ _ _ _ hs] at hpl hB ⊢
    have ih := cE_ok lib Γ env F D e pc o (cxOf p ck B dA).r1 true m hpl hB (Or.inr rfl) fr hvars hb hpk1 ho
    rw [cE_opd, shape_compound _ _ _ _ true hs] at ih
    exact ⟨fun v hv => let ⟨m1, r1, k1, hv1, _⟩ := ih.1 v hv; ⟨m1, r1, k1, hv1⟩, ih.2⟩
  | true =>
    rw [pushE_safe _ _ _ _ hs] at hpl hB ⊢
    obtain ⟨hplG, hplS⟩ := hpl.append
    rw [List.length_append] at hB
    have hpk0 : pkE p.w o e false ≤ D := by cases e <;> first | exact hpk1 | cases hs
    have hg := gV_run lib (eOk lib Γ env F D e) pc o (cxOf p ck B dA).r1 m hplG (Nat.le_trans (Nat.add_le_add_left (Nat.le_add_right _ _) _) hB) (Or.inr rfl) fr hvars hb hpk0 ho
    refine ⟨fun v hv => ?_, hg.2⟩
    obtain ⟨m2, r2, k2, harg, hv2, _⟩ := hg.1 v hv
    have fr2 := fr.keep k2
    have ev := ev_arg_any (ck := ck) (dA := dA) (B := B) hw fr2 (pc + (gV (cxOf p ck B dA) Γ pc o (cxOf p ck B dA).r1 e).1.length) _ harg
    rw [hv2] at ev
    have sb := slot_bounds fr.room hoD
    refine ⟨_, reach_append r2 (st_reach hw fr2 (o + p.w) _ v hplS ev (Nat.le_add_left _ _) hoD),
      k2.trans' (Keep.write _ _ _ _ _ _ sb.1 sb.2), ?_⟩
    rw [Mem.readLE_writeLE_same _ _ _ _ (Nat.le_trans sb.2 (Nat.le_trans (Nat.sub_le _ _) fr2.top))]
    exact Nat.mod_eq_of_lt (hv2 ▸ valOf_lt _ _ _ _)
end

end HidVerif.Core
