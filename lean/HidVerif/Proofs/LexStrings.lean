import HidVerif.Proofs.LexReaders
/-!
# String literals as layout pieces (C12 v, vi)

A string body is a sequence of segments, each a plain run (no `"`, no `\`) followed by one complete
escape sequence, and a final plain run.  `readsAs_string_esc`: such a literal, in front of anything, is
one `str` token holding the UTF-8 bytes of the runs and the bytes of the escapes, in order.  Complete escape
sequences: the simple escapes of the regenerated table, `\xHH`, and `\u{h…}` with a scalar value.
-/
namespace HidVerif.Hid.Lex
open HidVerif.Gen

/-- `e` is a complete escape sequence denoting the bytes `bs`, whatever follows it -/
def IsEsc (e : Line) (bs : List Nat) : Prop :=
  (∃ r, e = 92 :: r) ∧ ∀ rest, readEscape (e ++ rest) = .ok bs e.length

/-- a plain run, its UTF-8 encoding character by character, an escape sequence, the bytes it denotes -/
abbrev Seg := Line × List (List Nat) × Line × List Nat

def SegOK (s : Seg) : Prop := (∀ c ∈ s.1, c ≠ 92 ∧ c ≠ 34) ∧ s.1.mapM utf8 = some s.2.1 ∧ IsEsc s.2.2.1 s.2.2.2

def bodyText : List Seg → Line
  | [] => []
  | (p, _, e, _) :: tl => p ++ (e ++ bodyText tl)

def bodyBytes : List Seg → List Nat
  | [] => []
  | (_, enc, _, bs) :: tl => enc.flatten ++ (bs ++ bodyBytes tl)

theorem takeWhile_plain (body rest : Line) (c : CP) (hc : c = 92 ∨ c = 34) (hb : ∀ c ∈ body, c ≠ 92 ∧ c ≠ 34) :
    (body ++ c :: rest).takeWhile (fun c => c != 92 && c != 34) = body :=
  takeWhile_append_stop body _ (fun a ha => by simp [hb a ha]) (fun a ha => by cases ha; rcases hc with rfl | rfl <;> rfl)

theorem loop_segments (last : Line) (lenc : List (List Nat)) (hl : ∀ c ∈ last, c ≠ 92 ∧ c ≠ 34) (hlenc : last.mapM utf8 = some lenc)
    (rest : Line) : ∀ (segs : List Seg), (∀ s ∈ segs, SegOK s) → ∀ (fuel off : Nat) (acc : List Nat), segs.length < fuel →
    readString.loop fuel (bodyText segs ++ (last ++ 34 :: rest)) off acc =
      .ok (.str (acc ++ (bodyBytes segs ++ lenc.flatten))) (off + ((bodyText segs).length + (last.length + 1))) := by
  intro segs
  induction segs with
  | nil =>
    intro _ fuel off acc hf
    cases fuel with
    | zero => cases hf
    | succ f =>
      unfold readString.loop
      simp only [bodyText, List.nil_append, takeWhile_plain last rest 34 (Or.inr rfl) hl, hlenc, List.drop_left', readEscape,
        bodyBytes, List.length_nil, Nat.zero_add, Nat.add_assoc]
  | cons s tl ih =>
    intro hs fuel off acc hf
    obtain ⟨p, enc, e, bs⟩ := s
    obtain ⟨hp, henc, ⟨r, hr⟩, hesc⟩ := hs (p, enc, e, bs) List.mem_cons_self
    simp only at hp henc hr hesc
    cases fuel with
    | zero => cases hf
    | succ f =>
      unfold readString.loop
      have htw : (p ++ (e ++ bodyText tl) ++ (last ++ 34 :: rest)).takeWhile (fun c => c != 92 && c != 34) = p := by
        subst hr
        have := takeWhile_plain p (r ++ bodyText tl ++ (last ++ 34 :: rest)) 92 (Or.inl rfl) hp
        simpa [List.append_assoc] using this
      have hdrop : (p ++ (e ++ bodyText tl) ++ (last ++ 34 :: rest)).drop p.length = e ++ (bodyText tl ++ (last ++ 34 :: rest)) := by
        rw [List.append_assoc, List.drop_left' rfl, List.append_assoc]
      simp only [bodyText, htw, henc, hdrop, hesc, List.drop_left']
      rw [ih (fun s h => hs s (List.mem_cons_of_mem _ h)) f _ _ (by simp at hf; omega)]
      simp only [bodyBytes, List.append_assoc, List.length_append]
      congr 1
      omega

/-- every segment holds at least its backslash: one unit of fuel per segment is enough -/
theorem length_le_bodyText : ∀ (segs : List Seg), (∀ s ∈ segs, SegOK s) → segs.length ≤ (bodyText segs).length := by
  intro segs
  induction segs with
  | nil => intro _; exact Nat.le_refl _
  | cons s tl ih =>
    intro h
    obtain ⟨p, enc, e, bs⟩ := s
    obtain ⟨_, _, ⟨r, hr⟩, _⟩ := h (p, enc, e, bs) List.mem_cons_self
    have := ih (fun s hs' => h s (List.mem_cons_of_mem _ hs'))
    subst hr
    simp only [bodyText, List.length_cons, List.length_append]
    omega

theorem readsAs_string_esc (segs : List Seg) (hs : ∀ s ∈ segs, SegOK s) (last : Line) (lenc : List (List Nat))
    (hl : ∀ c ∈ last, c ≠ 92 ∧ c ≠ 34) (hlenc : last.mapM utf8 = some lenc) (rest : Line) :
    ReadsAs (34 :: (bodyText segs ++ (last ++ [34]))) (.str (bodyBytes segs ++ lenc.flatten)) rest := by
  refine .of_head (by decide +kernel) (by decide) ?_
  have ht : (34 :: (bodyText segs ++ (last ++ [34]))) ++ rest = 34 :: (bodyText segs ++ (last ++ 34 :: rest)) := by simp
  rw [ht]
  refine readToken_of_string ?_
  have hlen : segs.length < (bodyText segs ++ (last ++ 34 :: rest)).length + 1 := by
    have := length_le_bodyText segs hs
    simp only [List.length_append]
    omega
  simp only [readString]
  rw [loop_segments last lenc hl hlenc rest segs hs _ 1 [] hlen]
  simp only [List.nil_append, List.length_cons, List.length_append, List.length_nil]
  congr 1
  omega

theorem selfDelim_string_esc (segs : List Seg) (hs : ∀ s ∈ segs, SegOK s) (last : Line) (lenc : List (List Nat))
    (hl : ∀ c ∈ last, c ≠ 92 ∧ c ≠ 34) (hlenc : last.mapM utf8 = some lenc) :
    SelfDelim (34 :: (bodyText segs ++ (last ++ [34]))) (.str (bodyBytes segs ++ lenc.flatten)) :=
  .of_readsAs fun rest _ => readsAs_string_esc segs hs last lenc hl hlenc rest

/-- a string literal without escapes has no segments -/
theorem selfDelim_string (body : Line) (enc : List (List Nat)) (hb : ∀ c ∈ body, c ≠ 92 ∧ c ≠ 34)
    (henc : body.mapM utf8 = some enc) :
    SelfDelim (34 :: (body ++ [34])) (.str enc.flatten) :=
  selfDelim_string_esc [] (fun _ h => nomatch h) body enc hb henc

theorem isEsc_simple (c v : Nat) (bs : List Nat) (h : escapeCodes.lookup c = some v) (hu : utf8 v = some bs) : IsEsc [92, c] bs := by
  refine ⟨⟨_, rfl⟩, fun rest => ?_⟩
  have hx : c ≠ 120 := fun hc => by rw [hc, show escapeCodes.lookup 120 = none by decide] at h; cases h
  have hu' : c ≠ 117 := fun hc => by rw [hc, show escapeCodes.lookup 117 = none by decide] at h; cases h
  show readEscape (92 :: c :: rest) = _
  unfold readEscape
  split
  · rename_i h'; injection h' with _ h2; injection h2 with h3 _; exact absurd h3 hx
  · rename_i h'; injection h' with _ h2; injection h2 with h3 _; exact absurd h3 hu'
  · rename_i c' _ h'
    injection h' with _ h2; injection h2 with h3 _
    subst h3
    simp [h, hu]
  · rename_i h'; cases h'
  · rename_i h1 h2 h3 h4; exact absurd rfl (h3 c rest)

theorem isEsc_hex (a b x y : Nat) (ha : hexVal a = some x) (hb : hexVal b = some y) : IsEsc [92, 120, a, b] [16 * x + y] := by
  refine ⟨⟨_, rfl⟩, fun rest => ?_⟩
  show readEscape (92 :: 120 :: a :: b :: rest) = _
  simp [readEscape, ha, hb]

theorem isEsc_unicode (hs : Line) (bs : List Nat) (hne : hs ≠ []) (hh : ∀ c ∈ hs, (hexVal c).isSome = true)
    (hcp : ofDigits 16 (hs.filterMap hexVal) ≤ 0x10FFFF) (hu : utf8 (ofDigits 16 (hs.filterMap hexVal)) = some bs) :
    IsEsc (92 :: 117 :: 123 :: (hs ++ [125])) bs := by
  refine ⟨⟨_, rfl⟩, fun rest => ?_⟩
  have ht : (92 :: 117 :: 123 :: (hs ++ [125])) ++ rest = 92 :: 117 :: 123 :: (hs ++ 125 :: rest) := by simp
  have htw : (hs ++ 125 :: rest).takeWhile (fun c => (hexVal c).isSome) = hs :=
    takeWhile_append_stop hs _ hh (fun a ha => by cases ha; decide +kernel)
  rw [ht]
  unfold readEscape
  simp only [htw, List.drop_left' rfl]
  have hemp : hs.isEmpty = false := by cases hs with | nil => exact absurd rfl hne | cons _ _ => rfl
  have hle : ¬ ofDigits 16 (hs.filterMap hexVal) > 0x10FFFF := by omega
  simp only [hemp, Bool.false_eq_true, if_false, hle, hu]
  simp only [List.length_cons, List.length_append, List.length_nil]
  congr 1
  omega

end HidVerif.Hid.Lex
