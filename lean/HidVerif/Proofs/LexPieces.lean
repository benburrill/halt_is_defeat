import HidVerif.Hid.Lexer
/-!
# Pieces: token texts and the tokens they denote (C12 v, vi)

A *piece* is the text of one token together with the token it denotes.  `ReadsAs t tok rest`: in front of
this particular rest of the line, `readToken` returns exactly that token and consumes exactly that text.
`SelfDelim t tok`: the same in front of every rest that begins with white space or is empty.  The files on
the token classes show which texts are pieces; `LexLayout` shows that lines made of pieces lex to their tokens.
-/
namespace HidVerif.Hid.Lex
open HidVerif.Gen

theorem takeWhile_append_stop {α : Type} {p : α → Bool} (l rest : List α) (hl : ∀ a ∈ l, p a = true)
    (hr : ∀ a ∈ rest.head?, p a = false) : (l ++ rest).takeWhile p = l := by
  rw [List.takeWhile_append_of_pos hl]
  cases rest with
  | nil => simp
  | cons a r => simp [hr a rfl]

def StartsSpace (rest : Line) : Prop := rest = [] ∨ ∃ c r, rest = c :: r ∧ isSpace c = true

structure SelfDelim (t : Line) (tok : Tok) : Prop where
  nonempty : t ≠ []
  noSpace : ∀ c r, t = c :: r → isSpace c = false
  noComment : ∀ r, t ≠ 47 :: 47 :: r
  read : ∀ rest, (rest = [] ∨ ∃ c r, rest = c :: r ∧ isSpace c = true) → readToken (t ++ rest) = .ok tok t.length

structure ReadsAs (t : Line) (tok : Tok) (rest : Line) : Prop where
  nonempty : t ≠ []
  noSpace : ∀ c r, t = c :: r → isSpace c = false
  noComment : ∀ r, t ++ rest ≠ 47 :: 47 :: r
  read : readToken (t ++ rest) = .ok tok t.length

theorem noComment_append {t rest : Line} (hne : t ≠ []) (hn : ∀ r, t ≠ 47 :: 47 :: r) (hr : StartsSpace rest) :
    ∀ r, t ++ rest ≠ 47 :: 47 :: r := by
  intro r heq
  match t, hne, hn with
  | [c], _, _ =>
    rcases hr with rfl | ⟨d, rest', rfl, hd⟩
    · cases heq
    · obtain rfl : d = 47 := (List.cons.inj (List.cons.inj heq).2).1
      exact absurd hd (by decide)
  | c :: d :: t'', _, hn =>
    obtain ⟨rfl, h3⟩ := List.cons.inj heq
    exact hn t'' (by rw [(List.cons.inj h3).1])

theorem SelfDelim.readsAs {t : Line} {tok : Tok} (h : SelfDelim t tok) {rest : Line} (hr : StartsSpace rest) : ReadsAs t tok rest :=
  ⟨h.nonempty, h.noSpace, noComment_append h.nonempty h.noComment hr, h.read rest hr⟩

theorem SelfDelim.of_readsAs {t : Line} {tok : Tok} (h : ∀ rest, StartsSpace rest → ReadsAs t tok rest) : SelfDelim t tok :=
  have h0 := h [] (Or.inl rfl)
  ⟨h0.nonempty, h0.noSpace, fun r e => h0.noComment r (by rw [List.append_nil]; exact e), fun rest hr => (h rest hr).read⟩

/-- every token class but the symbols is recognised by a first character that is neither white space nor `/` -/
theorem ReadsAs.of_head {c : Nat} {t rest : Line} {tok : Tok} (hs : isSpace c = false) (h47 : c ≠ 47)
    (hr : readToken (c :: t ++ rest) = .ok tok (c :: t).length) : ReadsAs (c :: t) tok rest :=
  ⟨List.cons_ne_nil _ _, fun _ _ h => by cases h; exact hs, fun _ h => h47 (List.cons.inj h).1, hr⟩

end HidVerif.Hid.Lex
