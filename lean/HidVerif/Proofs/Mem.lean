import HidVerif.Sphinx.Isa
/-!
# Memory lemmas: little-endian words over a bounds-checked byte array
-/
namespace HidVerif.Sphinx.Mem

@[simp] theorem size_wr (m : Mem) (a v : Nat) : (m.wr a v).size = m.size := by
  simp [wr, size]

theorem rd_lt (m : Mem) (a : Nat) : m.rd a < 256 := by
  unfold rd; exact UInt8.toNat_lt _

theorem rd_wr_same (m : Mem) (a v : Nat) (h : a < m.size) : (m.wr a v).rd a = v % 256 := by
  unfold rd wr size at *
  simp [Array.getD, h, UInt8.toNat_ofNat']

theorem rd_wr_other (m : Mem) (a b v : Nat) (h : a ≠ b) : (m.wr a v).rd b = m.rd b := by
  unfold rd wr
  simp only [Array.getD_eq_getD_getElem?]
  rw [Array.getElem?_setIfInBounds_ne h]

@[simp] theorem size_writeLE (m : Mem) (a k v : Nat) : (m.writeLE a k v).size = m.size := by
  induction k generalizing m a v with
  | zero => rfl
  | succ k ih => simp [writeLE, ih]

theorem rd_writeLE_other (m : Mem) (a k v x : Nat) (h : x < a ∨ a + k ≤ x) :
    (m.writeLE a k v).rd x = m.rd x := by
  induction k generalizing m a v with
  | zero => rfl
  | succ k ih =>
    simp only [writeLE]
    rw [ih _ _ _ (by omega), rd_wr_other _ _ _ _ (by omega)]

theorem readLE_congr (m m' : Mem) (a k : Nat) (h : ∀ x, a ≤ x → x < a + k → m.rd x = m'.rd x) :
    m.readLE a k = m'.readLE a k := by
  induction k generalizing a with
  | zero => rfl
  | succ k ih =>
    simp only [readLE]
    rw [h a (by omega) (by omega), ih (a+1) (fun x h1 h2 => h x (by omega) (by omega))]

theorem readLE_writeLE_same (m : Mem) (a k v : Nat) (hb : a + k ≤ m.size) :
    (m.writeLE a k v).readLE a k = v % 256 ^ k := by
  induction k generalizing a v m with
  | zero => simp [readLE, Nat.mod_one]
  | succ k ih =>
    simp only [readLE, writeLE]
    rw [rd_writeLE_other _ _ _ _ _ (by omega), rd_wr_same _ _ _ (by omega)]
    rw [ih _ _ _ (by simp; omega)]
    rw [Nat.mod_mod, Nat.pow_succ, Nat.mul_comm (256^k) 256, Nat.mod_mul]

theorem readLE_writeLE_disj (m : Mem) (a k v b j : Nat) (h : b + j ≤ a ∨ a + k ≤ b) :
    (m.writeLE a k v).readLE b j = m.readLE b j := by
  apply readLE_congr; intro x h1 h2; apply rd_writeLE_other; omega

theorem readLE_lt (m : Mem) (a k : Nat) : m.readLE a k < 256 ^ k := by
  induction k generalizing a with
  | zero => simp [readLE]
  | succ k ih =>
    simp only [readLE, Nat.pow_succ]
    have := ih (a+1); have := rd_lt m a
    omega

theorem readLE_one (m : Mem) (a : Nat) : m.readLE a 1 = m.rd a := by
  simp [readLE]

theorem writeLE_one (m : Mem) (a v : Nat) : m.writeLE a 1 v = m.wr a (v % 256) := by
  simp [writeLE]

theorem rd_writeLE_one_same (m : Mem) (a v : Nat) (h : a < m.size) :
    (m.writeLE a 1 v).rd a = v % 256 := by
  rw [writeLE_one, rd_wr_same _ _ _ h, Nat.mod_mod]

end HidVerif.Sphinx.Mem

namespace HidVerif.Sphinx

/-- a byte access reads the low byte of a little-endian word: `x is byte` is truncation -/
theorem low_byte (m : Mem) (a w : Nat) (hw : 1 ≤ w) : m.rd a = m.readLE a w % 256 := by
  obtain ⟨k, rfl⟩ : ∃ k, w = k + 1 := ⟨w - 1, by omega⟩
  have := Mem.rd_lt m a
  simp only [Mem.readLE]; omega

end HidVerif.Sphinx
