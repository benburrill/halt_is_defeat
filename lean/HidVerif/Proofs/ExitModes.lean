import HidVerif.Proofs.ModeBits
/-!
# C16 — the exit-mode analysis is sound: a block whose modes lack `NONE` cannot complete normally
-/
namespace HidVerif.Hid.Exit

/-- the body of the loop of `blockGo`; `TC.stepMode` is the same on typed statements -/
def step (mode : Nat) : Skel → Nat × Bool
  | .other => (mode, false)
  | .ret => (replace mode NONE RETURN, false)
  | .brk => (replace mode NONE BREAK, false)
  | .cont => (mode, true)
  | .defeat => (replace mode NONE DEFEAT, false)
  | .term => (replace mode NONE LOOP, false)
  | .defcall => (Nat.lor mode DEFEAT, false)
  | s => (replace mode NONE (modes s), false)

theorem blockGo_cons (s : Skel) (rest : List Skel) (mode : Nat) (fc : Bool) :
    blockGo (s :: rest) mode fc =
      if (!has mode NONE || fc) = true then mode else blockGo rest (step mode s).1 (step mode s).2 := by
  conv => lhs; unfold blockGo
  split
  · rfl
  · cases s <;> rfl

theorem consts_lt : NONE < 32 ∧ BREAK < 32 ∧ LOOP < 32 ∧ DEFEAT < 32 ∧ RETURN < 32 := by decide

theorem step_lt {mode : Nat} {s : Skel} (hm : mode < 32) (hs : modes s < 32) : (step mode s).1 < 32 := by
  cases s with
  | other | cont => exact hm
  | ret => exact replace_lt _ hm consts_lt.2.2.2.2
  | brk => exact replace_lt _ hm consts_lt.2.1
  | defeat => exact replace_lt _ hm consts_lt.2.2.2.1
  | term => exact replace_lt _ hm consts_lt.2.2.1
  | defcall => exact lor_lt hm consts_lt.2.2.2.1
  | block _ | ifb _ _ | loop _ _ _ | tryb _ _ | preempt _ => exact replace_lt _ hm hs

theorem step_has_break {mode : Nat} (s : Skel) (h : has mode BREAK = true) : has (step mode s).1 BREAK = true := by
  have key : ∀ n, has (replace mode NONE n) BREAK = true := fun n => by
    rw [has_replace_ne flag_NONE flag_BREAK, h, Bool.true_or]
  cases s with
  | other | cont => exact h
  | defcall => show has (Nat.lor mode DEFEAT) BREAK = true; rw [has_lor flag_BREAK, h, Bool.true_or]
  | ret | brk | defeat | term | block _ | ifb _ _ | loop _ _ _ | tryb _ _ | preempt _ => exact key _

mutual
theorem modes_lt : ∀ s : Skel, modes s < 32
  | .block ss => by simp only [modes]; exact blockGo_lt ss NONE false consts_lt.1
  | .ifb t e => by simp only [modes]; exact lor_lt (modes_lt t) (modes_lt e)
  | .loop tc b k => by
    simp only [modes]
    split
    · exact replace_lt _ (modes_lt b) consts_lt.2.2.1
    · exact replace_lt _ (modes_lt b) consts_lt.1
  | .tryb b h => by simp only [modes]; exact replace_lt _ (modes_lt b) (modes_lt h)
  | .preempt b => by simp only [modes]; exact lor_lt (modes_lt b) consts_lt.1
  | .other | .ret | .brk | .cont | .defeat | .term | .defcall => by decide

theorem blockGo_lt : ∀ (ss : List Skel) (mode : Nat) (fc : Bool), mode < 32 → blockGo ss mode fc < 32
  | [], mode, fc, h => by simpa [blockGo] using h
  | s :: rest, mode, fc, h => by
    rw [blockGo_cons]
    split
    · exact h
    · exact blockGo_lt rest _ _ (step_lt h (modes_lt s))
end

theorem blockGo_has_break : ∀ (ss : List Skel) (mode : Nat) (fc : Bool), has mode BREAK = true →
    has (blockGo ss mode fc) BREAK = true
  | [], mode, fc, h => by simpa [blockGo] using h
  | s :: rest, mode, fc, h => by
    rw [blockGo_cons]
    split
    · exact h
    · exact blockGo_has_break rest _ _ (step_has_break s h)

theorem blockGo_break_mono : ∀ (ss : List Skel) (mode : Nat) (fc : Bool), mode < 32 →
    has mode BREAK = true → has (blockGo ss mode fc) BREAK = true :=
  fun ss mode fc _ h => blockGo_has_break ss mode fc h

theorem f_loop_inf : ∀ m < 32, has (replace m NONE LOOP) NONE = false ∧ has (replace m NONE LOOP) BREAK = has m BREAK := by
  intro m _
  rw [has_replace_self flag_NONE, has_replace_ne flag_NONE flag_BREAK, has_flag flag_LOOP flag_NONE,
    has_flag flag_LOOP flag_BREAK]
  exact ⟨rfl, Bool.or_false _⟩

theorem loop_exit_none (m : Nat) : has (replace m BREAK NONE) NONE = true := by
  rw [has_replace_ne flag_BREAK flag_NONE, has_flag flag_NONE flag_NONE]; exact Bool.or_true _

/-- normal completion of a control block shows as `NONE`, a `break` as `BREAK`; for code blocks from any accumulator -/
def Inv (s : Skel) (o : Out) : Prop :=
  wf s = true →
  (blockish s = true → (o = .normal → has (modes s) NONE = true) ∧ (o = .brk → has (modes s) BREAK = true)) ∧
  (∀ ss, s = .block ss → ∀ mode, mode < 32 → has mode NONE = true →
    (o = .normal → has (blockGo ss mode false) NONE = true) ∧ (o = .brk → has (blockGo ss mode false) BREAK = true))

theorem inv_of_block {ss : List Skel} {o : Out}
    (h : wfAll ss = true → ∀ mode, mode < 32 → has mode NONE = true →
      (o = .normal → has (blockGo ss mode false) NONE = true) ∧ (o = .brk → has (blockGo ss mode false) BREAK = true)) :
    Inv (.block ss) o := by
  intro hw
  have hw' : wfAll ss = true := by simpa [wf] using hw
  have hN : has NONE NONE = true := by rw [has_flag flag_NONE flag_NONE]; rfl
  refine ⟨fun _ => ⟨fun ho => ?_, fun ho => ?_⟩, fun ss' he => ?_⟩
  · simpa [modes] using (h hw' NONE consts_lt.1 hN).1 ho
  · simpa [modes] using (h hw' NONE consts_lt.1 hN).2 ho
  · cases he; exact h hw'

theorem inv_leaf {s : Skel} {o : Out} (hb : blockish s = false) (hn : ∀ ss, s ≠ .block ss) : Inv s o := by
  intro _
  exact ⟨fun h => (by rw [hb] at h; cases h), fun ss h => absurd h (hn ss)⟩

theorem inv_ctrl {s : Skel} {o : Out} (hn : ∀ ss, s ≠ .block ss)
    (h : wf s = true → (o = .normal → has (modes s) NONE = true) ∧ (o = .brk → has (modes s) BREAK = true)) : Inv s o := by
  intro hw
  exact ⟨fun _ => h hw, fun ss he => absurd he (hn ss)⟩

theorem step_brk {s : Skel} (hs : Exits s .brk) (hm : blockish s = true → has (modes s) BREAK = true) (mode : Nat) :
    has (step mode s).1 BREAK = true := by
  have key : ∀ n, has n BREAK = true → has (replace mode NONE n) BREAK = true := fun n hn => by
    rw [has_replace_ne flag_NONE flag_BREAK, hn, Bool.or_true]
  cases s with
  | brk => exact key _ (by rw [has_flag flag_BREAK flag_BREAK]; rfl)
  | block _ | ifb _ _ | loop _ _ _ | tryb _ _ | preempt _ => exact key _ (hm rfl)
  | other | ret | cont | defeat | term | defcall => cases hs

theorem step_normal {s : Skel} (hs : Exits s .normal) (hm : blockish s = true → has (modes s) NONE = true) {mode : Nat}
    (hn : has mode NONE = true) : has (step mode s).1 NONE = true ∧ (step mode s).2 = false := by
  cases s with
  | other => exact ⟨hn, rfl⟩
  | defcall => exact ⟨by show has (Nat.lor mode DEFEAT) NONE = true; rw [has_lor flag_NONE, hn, Bool.true_or], rfl⟩
  | block _ | ifb _ _ | loop _ _ _ | tryb _ _ | preempt _ =>
    exact ⟨by show has (replace mode NONE _) NONE = true; rw [has_replace_self flag_NONE]; exact hm rfl, rfl⟩
  | ret | brk | cont | defeat | term => cases hs

theorem exits_sound {s : Skel} {o : Out} (h : Exits s o) : Inv s o := by
  induction h with
  | other | otherD | ret | retD | brk | cont | defeat | defcallN | defcallD => exact inv_leaf rfl (fun _ h => by cases h)
  | ifD | loopD => exact inv_ctrl (fun _ h => by cases h) (fun _ => ⟨fun h => (by cases h), fun h => (by cases h)⟩)
  | blockNil =>
    apply inv_of_block
    intro _ mode _ hn
    exact ⟨fun _ => by simpa [blockGo] using hn, fun h => by cases h⟩
  | @blockStop s rest o hs hne ih =>
    apply inv_of_block
    intro hw mode _ hn
    have hws : wf s = true := by simp [wfAll] at hw; exact hw.1
    refine ⟨fun ho => absurd ho hne, fun ho => ?_⟩
    subst ho
    rw [blockGo_cons, hn]
    exact blockGo_has_break rest _ _ (step_brk hs (fun hb => ((ih hws).1 hb).2 rfl) mode)
  | @blockNext s rest o hs _ ihs ihr =>
    apply inv_of_block
    intro hw mode hlt hn
    have hws : wf s = true := by simp [wfAll] at hw; exact hw.1
    have hwr : wf (.block rest) = true := by simp [wfAll] at hw; simpa [wf] using hw.2
    obtain ⟨h1, h2⟩ := step_normal hs (fun hb => ((ihs hws).1 hb).1 rfl) hn
    rw [blockGo_cons, hn, h2]
    exact (ihr hwr).2 rest rfl _ (step_lt hlt (modes_lt s)) h1
  | @ifT t e o _ ih =>
    apply inv_ctrl (fun _ h => by cases h)
    intro hw
    simp only [wf, Bool.and_eq_true] at hw
    have iht := (ih hw.1.2).1 hw.1.1.1
    simp only [modes]
    exact ⟨fun ho => by rw [has_lor flag_NONE, iht.1 ho, Bool.true_or],
      fun ho => by rw [has_lor flag_BREAK, iht.2 ho, Bool.true_or]⟩
  | @ifE t e o _ ih =>
    apply inv_ctrl (fun _ h => by cases h)
    intro hw
    simp only [wf, Bool.and_eq_true] at hw
    have ihe := (ih hw.2).1 hw.1.1.2
    simp only [modes]
    exact ⟨fun ho => by rw [has_lor flag_NONE, ihe.1 ho, Bool.or_true],
      fun ho => by rw [has_lor flag_BREAK, ihe.2 ho, Bool.or_true]⟩
  | @loopSkip b k =>
    apply inv_ctrl (fun _ h => by cases h)
    intro _
    refine ⟨fun _ => ?_, fun h => by cases h⟩
    simp only [modes, Bool.and_false, Bool.false_eq_true, if_false]
    exact loop_exit_none _
  | @loopBreak tc b k _ ih =>
    apply inv_ctrl (fun _ h => by cases h)
    intro hw
    simp only [wf, Bool.and_eq_true] at hw
    have ihb := (ih hw.1.2).1 hw.1.1.1
    refine ⟨fun _ => ?_, fun h => by cases h⟩
    simp only [modes, ihb.2 rfl, Bool.not_true, Bool.false_and, Bool.false_eq_true, if_false]
    exact loop_exit_none _
  | loopBody _ ho _ | loopCont _ ho _ =>
    apply inv_ctrl (fun _ h => by cases h)
    intro _
    exact ⟨fun h => (by subst h; rcases ho with h | h <;> cases h), fun h => (by subst h; rcases ho with h | h <;> cases h)⟩
  | @tryBody b hh o _ _ ih =>
    apply inv_ctrl (fun _ h => by cases h)
    intro hw
    simp only [wf, Bool.and_eq_true] at hw
    have ihb := (ih hw.1.2).1 hw.1.1.1
    simp only [modes]
    exact ⟨fun ho => by rw [has_replace_ne flag_DEFEAT flag_NONE, ihb.1 ho, Bool.true_or],
      fun ho => by rw [has_replace_ne flag_DEFEAT flag_BREAK, ihb.2 ho, Bool.true_or]⟩
  | @tryHandler b hh o _ _ _ ih =>
    apply inv_ctrl (fun _ h => by cases h)
    intro hw
    simp only [wf, Bool.and_eq_true] at hw
    have ihh := (ih hw.2).1 hw.1.1.2
    simp only [modes]
    exact ⟨fun ho => by rw [has_replace_ne flag_DEFEAT flag_NONE, ihh.1 ho, Bool.or_true],
      fun ho => by rw [has_replace_ne flag_DEFEAT flag_BREAK, ihh.2 ho, Bool.or_true]⟩
  | @preemptSkip b =>
    apply inv_ctrl (fun _ h => by cases h)
    intro _
    refine ⟨fun _ => ?_, fun h => by cases h⟩
    simp only [modes]
    rw [has_lor flag_NONE, has_flag flag_NONE flag_NONE]; exact Bool.or_true _
  | @preemptRun b o _ ih =>
    apply inv_ctrl (fun _ h => by cases h)
    intro hw
    simp only [wf, Bool.and_eq_true] at hw
    have ihb := (ih hw.2).1 hw.1
    simp only [modes]
    exact ⟨fun ho => by rw [has_lor flag_NONE, ihb.1 ho, Bool.true_or],
      fun ho => by rw [has_lor flag_BREAK, ihb.2 ho, Bool.true_or]⟩

/-- **C16 (a)**: a well-formed block whose exit modes lack `NONE` never completes normally -/
theorem no_none_no_fallthrough (s : Skel) (hb : blockish s = true) (hw : wf s = true)
    (h : has (modes s) NONE = false) : ¬ Exits s .normal := by
  intro he
  have := ((exits_sound he hw).1 hb).1 rfl
  rw [h] at this; cases this

/-- **C16 (c)**: whatever follows a statement prefix whose mode lacks `NONE` is unreachable:
the block cannot get past the prefix normally -/
theorem unreachable_after (pre : List Skel) (hw : wfAll pre = true)
    (h : has (blockGo pre NONE false) NONE = false) : ¬ Exits (.block pre) .normal :=
  no_none_no_fallthrough (.block pre) rfl (by simpa [wf] using hw) (by simpa [modes] using h)

end HidVerif.Hid.Exit
