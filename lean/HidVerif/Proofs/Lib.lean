import HidVerif.Proofs.Step
import HidVerif.Gen.Stdlib
/-!
# The runtime library placed in a program: each routine sits at its offset
-/
namespace HidVerif.Sphinx
open HidVerif HidVerif.PSys HidVerif.Gen

theorem stdlib_offsets (w B : Nat) : OffsetsFrom 0 (stdlibRoutineCode w B) := by
  unfold stdlibRoutineCode
  repeat (first | exact trivial | refine ⟨rfl, ?_⟩)

theorem stdlib_flatten (w B : Nat) :
    stdlibCode w B = ((stdlibRoutineCode w B).map (·.2)).flatten := by
  simp [stdlibCode, stdlibRoutineCode]

/-- The runtime library (as regenerated from `stdlib.py`) sits at code address `B` of `p`, and all its
code addresses are words. -/
structure Placed (p : Prog) (B : Nat) : Prop where
  hw : 2 ≤ p.w
  code : PlacedAt p B (stdlibCode p.w B)
  hB : B + stdlibLength < 256 ^ p.w

theorem Placed.routine {p : Prog} {B : Nat} (hp : Placed p B) {o : Nat} {c : List Instr}
    (hm : (o, c) ∈ stdlibRoutineCode p.w B) : PlacedAt p (B + o) c := by
  have h := hp.code
  rw [stdlib_flatten] at h
  exact placed_routines (stdlib_offsets p.w B) (by simpa using h) (o, c) hm

theorem off_lt {B M k : Nat} (hB : B + stdlibLength < M) (hk : k ≤ stdlibLength) : B + k < M := by omega

theorem Placed.lt {p : Prog} {B : Nat} (hp : Placed p B) (k : Nat) (hk : k ≤ stdlibLength) :
    B + k < 256 ^ p.w := off_lt hp.hB hk

theorem Placed.addr_lt {p : Prog} {B : Nat} (hp : Placed p B) (o k : Nat) (hk : o + k ≤ stdlibLength) :
    B + o + k < 256 ^ p.w := Nat.add_assoc B o k ▸ hp.lt (o + k) hk

theorem stub_lt {p : Prog} {B : Nat} (lib : Placed p B) {k : Nat} (hk : k ≤ stdlibLength) :
    (B + k) % p.M = B + k :=
  Nat.mod_eq_of_lt (lib.lt k hk)

end HidVerif.Sphinx
