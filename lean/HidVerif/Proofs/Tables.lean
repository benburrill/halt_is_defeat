import HidVerif.Gen.Tables
import HidVerif.Hid.Machine
/-!
# The generator's operator tables mean what the source semantics says (for all `w`, all values)
-/
namespace HidVerif.Sphinx
open HidVerif HidVerif.Gen HidVerif.Hid

def invOf : HaltOp → HaltOp
  | .heq => .hne | .hne => .heq | .hlt => .hge | .hge => .hlt | .hgt => .hle | .hle => .hgt
  | .hltu => .hgeu | .hgeu => .hltu | .hgtu => .hleu | .hleu => .hgtu

theorem invOf_correct (M : Nat) (c : HaltOp) (a b : Nat) :
    haltCond M (invOf c) a b = !haltCond M c a b := by
  cases c
  case heq => simp [invOf, haltCond, bne]
  case hne => simp [invOf, haltCond, bne]
  all_goals simp [invOf, haltCond, ← decide_not, Int.not_lt, Int.not_le, Nat.not_lt, Nat.not_le]

/-- `halt_inversion` in the source is exactly logical negation, on all ten conditional halts -/
theorem haltInversion_is_invOf : ∀ pr ∈ haltInversion, pr.2 = invOf pr.1 := by decide

theorem haltInversion_total : ∀ c : HaltOp, ∃ c', (c, c') ∈ haltInversion :=
  fun c => ⟨invOf c, by cases c <;> decide⟩

/-- for every entry of the regenerated table, the halt at the branch target fires exactly when
the halt after the jump does not — for every word size and all operand values -/
theorem halt_inversion_sound (M : Nat) (a b : Nat) :
    ∀ pr ∈ haltInversion, haltCond M pr.2 a b = !haltCond M pr.1 a b := by
  intro pr hpr
  rw [haltInversion_is_invOf pr hpr]; exact invOf_correct M pr.1 a b

theorem env_toS (E : Env) (x : Nat) : E.toS x = toS E.M x := by
  unfold Env.toS toS Env.H; rfl

theorem b2n_spec (x : Bool) :
    ((if x then 1 else 0 : Nat) = 1 ↔ x = true) ∧ ((if x then 1 else 0 : Nat) = 1 ∨ (if x then 1 else 0 : Nat) = 0) := by
  cases x <;> simp

/-- `compare_map`: the conditional halt chosen for a comparison fires iff the comparison holds
in the reference semantics (signed reading) -/
theorem compare_map_sound (E : Env) (a b : Nat) :
    ∀ pr ∈ compareMap, (Hid.binArith E pr.1 a b = some 1 ↔ haltCond E.M pr.2 a b = true) ∧
      (Hid.binArith E pr.1 a b = some 1 ∨ Hid.binArith E pr.1 a b = some 0) := by
  intro pr hpr
  simp only [compareMap, List.mem_cons, List.mem_nil_iff, or_false] at hpr
  rcases hpr with rfl | rfl | rfl | rfl | rfl | rfl <;>
    simp only [Hid.binArith, haltCond, env_toS, Option.some.injEq] <;> exact b2n_spec _

/-- `arith_map`: the ALU instruction chosen for an arithmetic operator computes what the
reference semantics says, including the division-by-zero case -/
theorem arith_map_sound (E : Env) (a b : Nat) :
    ∀ pr ∈ arithMap, Hid.binArith E pr.1 a b = aluOp E.M (8 * E.w) pr.2 a b := by
  intro pr hpr
  simp only [arithMap, List.mem_cons, List.mem_nil_iff, or_false] at hpr
  rcases hpr with rfl | rfl | rfl | rfl | rfl <;>
    simp [Hid.binArith, aluOp, env_toS, Env.wrap, wrapI]

end HidVerif.Sphinx
