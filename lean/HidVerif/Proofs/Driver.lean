import HidVerif.Proofs.Prophetic
/-!
# S5 — soundness of the backtracking driver `PSys.run`, for every prophetic system

If the driver stops in a terminal state (and terminal states never halt) or at a fault, the
events it returns are exactly the committed trace `Exec` from the initial state to the final
state; if it reports a committed halt, the initial state `Halts`.
-/
namespace HidVerif.PSys
variable {σ ε : Type} {sys : PSys σ ε}

/-- Invariant of the driver. The choice stack is listed top first. Each segment between two
pending jumps is an honest committed execution. -/
inductive Inv (sys : PSys σ ε) (s₀ : σ) : σ → List ε → List (σ × Nat) → Prop where
  | base {s tr} : Exec sys s₀ tr s → Inv sys s₀ s tr []
  | push {j tr ch no y tr' s} : Inv sys s₀ j tr ch → sys.step j = .jump no y → Exec sys no tr' s →
      Inv sys s₀ s (tr ++ tr') ((y, tr.length) :: ch)

theorem Inv.exec_of_not_halts {s₀ s tr ch} (h : Inv sys s₀ s tr ch) (hn : ¬ Halts sys s) :
    Exec sys s₀ tr s := by
  induction h with
  | base e => exact e
  | push _ hj e ih =>
    have hno : ¬ Halts sys _ := fun hh => hn ((exec_halts_iff e).1 hh)
    have hjn : ¬ Halts sys _ := fun hh => hno ((halts_jump_iff hj).1 hh).1
    have := exec_trans (ih hjn) (Exec.step (CStep.jumpNo hj hno) e)
    simpa [evl] using this

theorem Inv.halts_init {s₀ s tr} (h : Inv sys s₀ s tr []) (hh : Halts sys s) : Halts sys s₀ := by
  cases h with
  | base e => exact (exec_halts_iff e).2 hh

theorem Inv.backtrack {s₀ s tr y n ch} (h : Inv sys s₀ s tr ((y, n) :: ch)) (hh : Halts sys s) :
    Inv sys s₀ y (tr.take n) ch := by
  cases h with
  | @push j tr₁ ch no y tr' s hinv hj e =>
    have hno : Halts sys no := (exec_halts_iff e).2 hh
    have hstep : CStep sys j none y := CStep.jumpYes hj hno
    simp only [List.take_left']
    -- extend the segment that ended in `j` by the committed step `j → y`
    cases hinv with
    | base e₀ =>
      have := exec_trans e₀ (Exec.single hstep)
      exact Inv.base (by simpa [evl] using this)
    | @push j' tr₀ ch' no' y' tr'' _ hinv' hj' e' =>
      have := exec_trans e' (Exec.single hstep)
      have h2 := Inv.push hinv' hj' (by simpa [evl] using this)
      simpa using h2

theorem Inv.next {s₀ s tr ch s' ev} (h : Inv sys s₀ s tr ch) (hs : sys.step s = .next s' ev) :
    Inv sys s₀ s' (tr ++ evl ev) ch := by
  cases h with
  | base e =>
    exact Inv.base (exec_trans e (Exec.single (CStep.next hs)))
  | push hinv hj e =>
    have := Inv.push hinv hj (exec_trans e (Exec.single (CStep.next hs)))
    simpa [List.append_assoc] using this

theorem Inv.jump {s₀ s tr ch no yes} (h : Inv sys s₀ s tr ch) (hs : sys.step s = .jump no yes) :
    Inv sys s₀ no tr ((yes, tr.length) :: ch) := by
  have := Inv.push h hs (Exec.refl (s := no))
  simpa using this

def Sound (sys : PSys σ ε) (isTerminal : σ → Bool) (s₀ : σ) (r : RunResult σ ε) : Prop :=
  match r.outcome with
  | .terminal => Exec sys s₀ r.events.toList r.final ∧ isTerminal r.final = true
  | .halted => Halts sys s₀
  | .fault _ => Exec sys s₀ r.events.toList r.final ∧ ¬ Halts sys r.final
  | .fuel => True

theorem go_sound (isTerminal : σ → Bool) (hterm : ∀ s, isTerminal s = true → ¬ Halts sys s) (s₀ : σ) :
    ∀ (fuel : Nat) (s : σ) (evs : Array ε) (ch : Array (σ × Nat)) (steps bt : Nat),
      Inv sys s₀ s evs.toList ch.toList.reverse →
      Sound sys isTerminal s₀ (PSys.run.go sys isTerminal (fun _ => #[]) fuel s evs ch steps bt) := by
  intro fuel
  induction fuel with
  | zero => intro s evs ch steps bt _; simp [PSys.run.go, Sound]
  | succ fuel ih =>
    intro s evs ch steps bt hinv
    unfold PSys.run.go
    by_cases ht : isTerminal s = true
    · simp only [ht, if_true, Sound]
      exact ⟨hinv.exec_of_not_halts (hterm s ht), trivial⟩
    · simp only [ht, Bool.false_eq_true, if_false, Array.append_empty]
      cases hs : sys.step s with
      | next s' ev =>
        simp only
        apply ih
        cases ev with
        | none => simpa [evl] using hinv.next hs
        | some e => simpa [evl] using hinv.next hs
      | jump no yes =>
        simp only
        apply ih
        have := hinv.jump hs
        simpa using this
      | fault why =>
        simp only [Sound]
        have hn : ¬ Halts sys s := not_halts_of_fault hs
        exact ⟨hinv.exec_of_not_halts hn, hn⟩
      | halt =>
        simp only
        have hh : Halts sys s := Halts.halt hs
        cases hb : ch.back? with
        | none =>
          simp only [Sound]
          have hem : ch.toList.reverse = [] := by
            have : ch = #[] := by simpa using hb
            simp [this]
          rw [hem] at hinv
          exact hinv.halts_init hh
        | some top =>
          obtain ⟨y, n⟩ := top
          simp only
          apply ih
          have hrev : ch.toList.reverse = (y, n) :: ch.pop.toList.reverse := by
            obtain ⟨ys, rfl⟩ := Array.back?_eq_some_iff.1 hb
            simp
          rw [hrev] at hinv
          have := hinv.backtrack hh
          simpa [Array.toList_extract, List.extract] using this

/-- **S5**: what the driver reports is true of the committed timeline. -/
theorem run_sound (isTerminal : σ → Bool) (hterm : ∀ s, isTerminal s = true → ¬ Halts sys s)
    (fuel : Nat) (s₀ : σ) :
    Sound sys isTerminal s₀ (sys.run isTerminal (fun _ => #[]) fuel s₀) := by
  unfold PSys.run
  exact go_sound isTerminal hterm s₀ fuel s₀ #[] #[] 0 0 (Inv.base Exec.refl)

end HidVerif.PSys
