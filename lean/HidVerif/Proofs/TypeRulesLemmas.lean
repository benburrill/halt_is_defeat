import HidVerif.Hid.TypeRules
import HidVerif.Proofs.TCMonad
/-!
# Facts about types and the typing rules: what `wtE` asks of each node, and the operator tables
-/
namespace HidVerif.Hid.TC
open HidVerif.Hid HidVerif.Hid.Lex HidVerif.Hid.Parse HidVerif.Gen

theorem tgtOK_int : tgtOK .int = true := rfl
theorem tgtOK_bool : tgtOK .bool = true := rfl

theorem scalar_ne_empty {t : Ty} (h : scalarTy t = true) : (t == Ty.empty) = false := by
  cases t <;> first | rfl | cases h

theorem scalar_not_arr {t : Ty} (h : scalarTy t = true) : isArr t = false := by
  cases t <;> first | rfl | cases h

theorem not_arr_not_empty {t : Ty} (h1 : isArr t = false) (h2 : (t == Ty.empty) = false) : scalarTy t = true := by
  cases t <;> first | rfl | (revert h2; decide) | cases h1

theorem scalar_tgtOK {t : Ty} (h : scalarTy t = true) : tgtOK t = true := by
  cases t <;> first | rfl | cases h

theorem noNest_of_not_arr {t : Ty} (h : isArr t = false) : noNest t = true := by
  cases t <;> first | rfl | cases h

theorem tgtOK_of_not_arr {t : Ty} (h : isArr t = false) : tgtOK t = true := by
  cases t <;> first | rfl | cases h

theorem noNest_elem {el : Ty} {c : Bool} (h : noNest (.arr el c) = true) : isArr el = false := by
  cases el <;> first | rfl | cases h

theorem tyOK_tgtOK {t : Ty} (h : tyOK t = true) : tgtOK t = true := by
  cases t <;> first | rfl | exact h | cases h

theorem tyOK_noNest {t : Ty} (h : tyOK t = true) : noNest t = true := by
  cases t with
  | arr el c => cases el <;> first | rfl | cases h
  | _ => rfl

theorem tgtOK_spec {t : Ty} (h : (t == .byte || t == .int || t == .bool) = true) : tgtOK t = true := by
  cases t <;> first | rfl | cases h

theorem arithOpOf_ok {op : String} {a : BinOp} (h : arithOpOf op = some a) : isArithOp a = true := by
  unfold arithOpOf at h
  split at h <;> first | (cases h; rfl) | cases h

theorem boolopOK_logic {op : String} {a : BinOp} (h : logicOpOf op = some a) : boolopOK a .bool .bool = true := by
  unfold logicOpOf at h
  split at h <;> first | (cases h; rfl) | cases h

theorem boolopOK_cmp {op : String} {a : BinOp} (h : cmpOpOf op = some a) : boolopOK a .int .int = true := by
  unfold cmpOpOf at h
  split at h <;> first | (cases h; rfl) | cases h

theorem boolopOK_eq {op : String} {a : BinOp} (h : eqOpOf op = some a) :
    boolopOK a .int .int = true ∧ boolopOK a .bool .bool = true := by
  unfold eqOpOf at h
  split at h <;> first | (cases h; exact ⟨rfl, rfl⟩) | cases h

section
variable {fs : List FuncSig}

theorem wtE_atSpan {e : TE} (h : isPrimitive e = true) : wtE fs (atSpan e) = true := by
  cases e <;> first | rfl | cases h

theorem wtE_index {s i : TE} (hs : wtE fs s = true) (hi : wtE fs i = true) (hti : typeOf i = .int)
    (hts : (isArr (typeOf s) || typeOf s == .string) = true) : wtE fs (.index s i) = true := by
  simp only [wtE, hs, hi, hti, hts, beq_self_eq_true, Bool.and_self]

theorem wtE_len {s : TE} (hs : wtE fs s = true) (hts : (isArr (typeOf s) || typeOf s == .string) = true) :
    wtE fs (.len s) = true := by
  simp only [wtE, hs, hts, Bool.and_self]

theorem wtE_arith {op : BinOp} {l r : TE} {sh : Bool} (hl : wtE fs l = true ∧ typeOf l = .int) (hr : wtE fs r = true ∧ typeOf r = .int)
    (hop : isArithOp op = true) : wtE fs (.arith op l r sh) = true := by
  simp only [wtE, hl.1, hr.1, hl.2, hr.2, hop, beq_self_eq_true, Bool.and_self]

theorem wtE_unarith {op : UnOp} {e : TE} {sh : Bool} (he : wtE fs e = true ∧ typeOf e = .int) (hop : (op != .not) = true) :
    wtE fs (.unarith op e sh) = true := by
  simp only [wtE, he.1, he.2, hop, beq_self_eq_true, Bool.and_self]

theorem wtE_boolop {op : BinOp} {l r : TE} {tl tr : Ty} (hl : wtE fs l = true ∧ typeOf l = tl) (hr : wtE fs r = true ∧ typeOf r = tr)
    (hop : boolopOK op tl tr = true) : wtE fs (.boolop op l r) = true := by
  simp only [wtE, hl.1, hr.1, hl.2, hr.2, hop, Bool.and_self]

theorem wtE_notop {e : TE} (he : wtE fs e = true ∧ typeOf e = .bool) : wtE fs (.notop e) = true := by
  simp only [wtE, he.1, he.2, beq_self_eq_true, Bool.and_self]

theorem wtE_spec {l r : TE} (hl : wtE fs l = true) (hr : wtE fs r = true ∧ typeOf r = typeOf l)
    (ht : (typeOf l == .byte || typeOf l == .int || typeOf l == .bool) = true) : wtE fs (.spec l r) = true := by
  simp only [wtE, hl, hr.1, hr.2, ht, beq_self_eq_true, Bool.and_self]

theorem arrlit_tgtOK {vals : List TE} {t : Ty} {lk : Bool} (hw : wtE fs (.arrlit vals t lk) = true)
    (hne : ∀ c, t ≠ .arr .empty c) : tgtOK t = true := by
  simp only [wtE, Bool.and_eq_true] at hw
  have h2 := hw.2
  cases t with
  | arr el c =>
    dsimp only at h2
    split at h2
    · rename_i he; exact absurd (by rw [beq_iff_eq.1 he]) (hne c)
    · exact (Bool.and_eq_true _ _ ▸ h2).1
  | _ => cases h2
end

/-- the static type of a well-typed tree is never an array of arrays -/
theorem typeOf_noNest (fs : List FuncSig) (hfs : ∀ f ∈ fs, noNest f.ret = true) :
    ∀ e : TE, wtE fs e = true → noNest (typeOf e) = true
  | .intv v b sh, _ => by cases b <;> rfl
  | .boolv _, _ => rfl
  | .strv _, _ => rfl
  | .param t, h => tyOK_noNest (t := t) (by simpa only [wtE] using h)
  | .var _ t _, h => tyOK_noNest (t := t) (by simpa only [wtE] using h)
  | .cast k e, h => by
    simp only [wtE, Bool.and_eq_true] at h
    have ih := typeOf_noNest fs hfs e h.1
    cases k with
    | vol =>
      unfold typeOf
      split
      · rename_i el c ht; rw [ht] at ih; exact ih
      · exact ih
    | _ => rfl
  | .index s i, h => by
    simp only [wtE, Bool.and_eq_true] at h
    have ih := typeOf_noNest fs hfs s h.1.1.1
    unfold typeOf
    split
    · rfl
    · rename_i el c ht; rw [ht] at ih; exact noNest_of_not_arr (noNest_elem ih)
    · exact ih
  | .len _, _ => rfl
  | .call n fl args ptys ret, h => by
    simp only [wtE, Bool.and_eq_true, List.any_eq_true, beq_iff_eq] at h
    obtain ⟨f, hf, hq⟩ := h.2
    exact hq.2 ▸ hfs f hf
  | .arrlit vals ty lk, h => by
    simp only [wtE, Bool.and_eq_true] at h
    have h2 := h.2
    cases ty with
    | arr el c =>
      show (!isArr el) = true
      dsimp only at h2
      split at h2
      · rename_i he; rw [beq_iff_eq] at he; subst he; rfl
      · rw [Bool.and_eq_true] at h2; rw [scalar_not_arr h2.1]; rfl
    | _ => cases h2
  | .arrinit el len, h => by
    simp only [wtE, Bool.and_eq_true] at h
    show (!isArr el) = true
    rw [scalar_not_arr h.2]; rfl
  | .arith _ _ _ _, _ => rfl
  | .unarith _ _ _, _ => rfl
  | .boolop _ _ _, _ => rfl
  | .notop _, _ => rfl
  | .spec l r, h => by
    simp only [wtE, Bool.and_eq_true, Bool.or_eq_true, beq_iff_eq] at h
    show noNest (typeOf l) = true
    rcases h.2 with (h1 | h1) | h1 <;> rw [h1] <;> rfl

theorem assignable_tgtOK {fs : List FuncSig} (hfs : ∀ f ∈ fs, noNest f.ret = true) {lk : TE} (hw : wtE fs lk = true)
    (ha : isAssignableTE lk = some false) : tgtOK (typeOf lk) = true := by
  cases lk with
  | var n t c => exact tyOK_tgtOK (t := t) (by simpa only [wtE] using hw)
  | index s i =>
    simp only [wtE, Bool.and_eq_true] at hw
    have ih := typeOf_noNest fs hfs s hw.1.1.1
    unfold typeOf
    split
    · rfl
    · rename_i el c ht; rw [ht] at ih; exact tgtOK_of_not_arr (noNest_elem ih)
    · rename_i h1 h2
      have := hw.2
      cases ht : typeOf s <;> first | rfl | exact absurd ht (h2 _ _) | (rw [ht] at this; cases this) | exact absurd ht h1
  | _ => cases ha

/-- the common end of the logic, comparison and equality cases of `tcExpr` -/
def foldCmp (op : BinOp) (a b : TE) : R TE :=
  if (isPrimitive a && isPrimitive b) = true then
    (match primData a, primData b with
     | some x, some y => pure (TE.boolv (cmpOperate op x y))
     | _, _ => pure (.boolop op a b))
  else pure (.boolop op a b)

theorem foldCmp_sat {E : TErr → Prop} {P : TE → Prop} {op : BinOp} {a b : TE} (hk : P (.boolop op a b))
    (hv : ∀ v, P (.boolv v)) : Sat E P (foldCmp op a b) := by
  unfold foldCmp
  split
  · split
    · exact .pure (hv _)
    · exact .pure hk
  · exact .pure hk

theorem wtSs_eq_all (fs : List FuncSig) (rt : Ty) : ∀ l : List TS, wtSs fs rt l = l.all (wtS fs rt)
  | [] => rfl
  | s :: rest => by rw [wtSs, List.all_cons, wtSs_eq_all fs rt rest]

theorem ptyEs_eq_all : ∀ l : List PExpr, ptyEs l = l.all ptyE
  | [] => rfl
  | e :: rest => by rw [ptyEs, List.all_cons, ptyEs_eq_all rest]

theorem ptySs_eq_all : ∀ l : List PStmt, ptySs l = l.all ptyS
  | [] => rfl
  | s :: rest => by rw [ptySs, List.all_cons, ptySs_eq_all rest]

theorem ptyEs_of_all (l : List PExpr) (h : ∀ a ∈ l, ptyE a = true) : ptyEs l = true := by
  rw [ptyEs_eq_all, List.all_eq_true]; exact h

theorem ptySs_of_all (l : List PStmt) (h : ∀ a ∈ l, ptyS a = true) : ptySs l = true := by
  rw [ptySs_eq_all, List.all_eq_true]; exact h

theorem bodyStmts_cases (s : PStmt) : (∃ ss pre, s = .block ss pre ∧ bodyStmts s = ss) ∨ bodyStmts s = [s] := by
  cases s <;> first | exact .inr rfl | exact .inl ⟨_, _, rfl, rfl⟩

end HidVerif.Hid.TC
