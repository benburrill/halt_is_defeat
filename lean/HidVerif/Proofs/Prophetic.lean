import HidVerif.Prophetic
/-!
# Theory of prophetic transition systems (S1–S3 of DESIGN §3.2 and the `Reach` calculus)

Everything here is generic in the system, so it holds for the Sphinx machine and for the HiD
reference machine alike.
-/
namespace HidVerif.PSys
variable {σ ε : Type} {sys : PSys σ ε}

/-- **S1** committed execution preserves halting status. -/
theorem cstep_halts_iff {s ev s'} (h : CStep sys s ev s') : Halts sys s ↔ Halts sys s' := by
  cases h with
  | next hs => exact ⟨fun hh => by cases hh <;> simp_all, Halts.next hs⟩
  | jumpYes hs ha => exact ⟨fun hh => by cases hh <;> simp_all, Halts.jump hs ha⟩
  | jumpNo hs ha => exact ⟨fun hh => by cases hh <;> simp_all, fun h => absurd h ha⟩

theorem exec_halts_iff {s tr s'} (h : Exec sys s tr s') : Halts sys s ↔ Halts sys s' := by
  induction h with
  | refl => rfl
  | step c _ ih => exact (cstep_halts_iff c).trans ih

theorem exec_trans {s t1 s1 t2 s2} (h1 : Exec sys s t1 s1) (h2 : Exec sys s1 t2 s2) :
    Exec sys s (t1 ++ t2) s2 := by
  induction h1 with
  | refl => simpa
  | step c _ ih => rw [List.append_assoc]; exact Exec.step c (ih h2)

theorem Exec.single {s ev s'} (h : CStep sys s ev s') : Exec sys s (evl ev) s' := by
  simpa using Exec.step h Exec.refl

/-- **S3** the committed step is deterministic. -/
theorem cstep_det {s ev₁ s₁ ev₂ s₂} (h₁ : CStep sys s ev₁ s₁) (h₂ : CStep sys s ev₂ s₂) :
    ev₁ = ev₂ ∧ s₁ = s₂ := by
  cases h₁ <;> cases h₂ <;> simp_all

theorem cstep_not_halt {s ev s'} (h : CStep sys s ev s') : sys.step s ≠ .halt := by
  cases h <;> simp_all

/-- **S3** traces are unique: of two committed runs from the same state one continues the other. -/
theorem exec_det {s tr₁ s₁ tr₂ s₂} (h₁ : Exec sys s tr₁ s₁) (h₂ : Exec sys s tr₂ s₂) :
    (∃ tr, Exec sys s₁ tr s₂ ∧ tr₂ = tr₁ ++ tr) ∨ (∃ tr, Exec sys s₂ tr s₁ ∧ tr₁ = tr₂ ++ tr) := by
  induction h₁ generalizing tr₂ s₂ with
  | refl => exact Or.inl ⟨tr₂, h₂, by simp⟩
  | @step s ev s' tr s'' c _ ih =>
    cases h₂ with
    | refl => exact Or.inr ⟨_, Exec.step c ‹_›, by simp⟩
    | @step _ ev' t' tr' _ c' e' =>
      obtain ⟨he, hs⟩ := cstep_det c c'
      subst he; subst hs
      rcases ih e' with ⟨t, ht, rfl⟩ | ⟨t, ht, rfl⟩
      · exact Or.inl ⟨t, ht, by simp⟩
      · exact Or.inr ⟨t, ht, by simp⟩

/-- **S2** coinduction principle: a set closed under "the `next` successor is safe / one of
the two jump successors is safe / never at a firing halt" contains no halting state. -/
theorem safe_not_halts (Safe : σ → Prop)
    (hstep : ∀ s, Safe s → match sys.step s with
      | .next s' _ => Safe s' | .halt => False | .jump a b => Safe a ∨ Safe b | .fault _ => True) :
    ∀ s, Safe s → ¬ Halts sys s := by
  intro s hs hh
  induction hh with
  | halt h => have := hstep _ hs; simp [h] at this
  | next h _ ih => have := hstep _ hs; simp [h] at this; exact ih this
  | jump h _ _ iha ihb =>
    have := hstep _ hs; simp [h] at this
    rcases this with x | x
    · exact iha x
    · exact ihb x

theorem not_halts_of_fault {s why} (h : sys.step s = .fault why) : ¬ Halts sys s := by
  intro hh; cases hh <;> simp_all

theorem Reach.refl {s} : Reach sys s [] s := ⟨id, fun _ => Exec.refl⟩

theorem Reach.trans {s t1 s1 t2 s2} (h1 : Reach sys s t1 s1) (h2 : Reach sys s1 t2 s2) :
    Reach sys s (t1 ++ t2) s2 := by
  refine ⟨fun h => h1.1 (h2.1 h), fun h => ?_⟩
  have e2 := h2.2 h
  have : ¬ Halts sys s1 := fun hh => h ((exec_halts_iff e2).1 hh)
  exact exec_trans (h1.2 this) e2

theorem Reach.of_next {s s' ev} (h : sys.step s = .next s' ev) : Reach sys s (evl ev) s' :=
  ⟨Halts.next h, fun _ => Exec.single (CStep.next h)⟩

theorem Reach.jump_taken' {s a b} (h : sys.step s = .jump a b) (hno : Halts sys a) :
    Reach sys s [] b :=
  ⟨fun hb => Halts.jump h hno hb,
   fun _ => Exec.single (CStep.jumpYes h hno)⟩

theorem Reach.jump_taken {s a b} (h : sys.step s = .jump a b) (hno : sys.step a = .halt) :
    Reach sys s [] b :=
  Reach.jump_taken' h (Halts.halt hno)

theorem Reach.jump_not_taken {s a b} (h : sys.step s = .jump a b) (hb : Halts sys a → Halts sys b) :
    Reach sys s [] a :=
  ⟨fun ha => Halts.jump h ha (hb ha),
   fun hn => Exec.single (CStep.jumpNo h hn)⟩

/-- `j L; hC a b` with the halt *not* firing: control falls through, provided the target
would halt whenever the fall-through does (the generator's habit of re-testing the inverse
condition at the target, or a never-halting error stub, provides exactly this). -/
theorem Reach.jump_fallthrough {s a b a'} (h : sys.step s = .jump a b)
    (hno : sys.step a = .next a' none) (hb : Halts sys a' → Halts sys b) : Reach sys s [] a' :=
  (Reach.jump_not_taken h (fun ha => hb (by cases ha <;> simp_all))).trans (Reach.of_next hno)

theorem Reach.exec {s tr s'} (h : Reach sys s tr s') (hn : ¬ Halts sys s') :
    Exec sys s tr s' ∧ ¬ Halts sys s :=
  ⟨h.2 hn, fun hh => hn ((exec_halts_iff (h.2 hn)).1 hh)⟩

/-- a Turing jump is not taken when the run behind it reaches a state that never halts -/
theorem Reach.jump_over {s a b s' tr} (h : sys.step s = .jump a b) (r : Reach sys a tr s')
    (hn : ¬ Halts sys s') : Reach sys s tr s' :=
  (Reach.jump_not_taken h (fun hh => absurd hh (r.exec hn).2)).trans r

/-- the Turing-jump law in its semantic form: a jump commits to `yes` iff `no` halts -/
theorem jump_law {s a b} (h : sys.step s = .jump a b) :
    (Halts sys a → CStep sys s none b) ∧ (¬ Halts sys a → CStep sys s none a) :=
  ⟨CStep.jumpYes h, CStep.jumpNo h⟩

theorem halts_jump_iff {s a b} (h : sys.step s = .jump a b) :
    Halts sys s ↔ Halts sys a ∧ Halts sys b := by
  constructor
  · intro hh; cases hh <;> simp_all
  · rintro ⟨ha, hb⟩; exact Halts.jump h ha hb

theorem halts_next_iff {s s' ev} (h : sys.step s = .next s' ev) : Halts sys s ↔ Halts sys s' :=
  cstep_halts_iff (CStep.next h)

end HidVerif.PSys
