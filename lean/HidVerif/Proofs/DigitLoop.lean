import HidVerif.Proofs.WriteLib
/-!
# The digit loops of `write_int`, for all `w ≥ 2`, all values
-/
namespace HidVerif.Sphinx
open HidVerif HidVerif.PSys HidVerif.Gen

theorem Placed.wi {p : Prog} {B : Nat} (hp : Placed p B) :
    PlacedAt p (B + off_write_int) (code_write_int p.w B) :=
  hp.routine (by simp [stdlibRoutineCode])

/-- the buffer described from its low end `a'`, so that no address is a difference -/
theorem push_loop_up (p : Prog) (B : Nat) (hp : Placed p B) :
    ∀ (n : Nat) (m : Mem) (F a a' : Nat),
      n / 10 < 256 ^ p.w / 2 → a < 256 ^ p.w → 5 * p.w ≤ a' → a' + (digits n).length = a → a ≤ m.size →
      Regs p.w m F a (n % 10) (n / 10) →
      ∃ m' r1', Reach (sphinx p) ⟨B + off_write_int + 20, m⟩ [] ⟨B + off_write_int + 25, m'⟩ ∧
        Regs p.w m' F a' r1' 0 ∧ bytesAt m' a' (digits n).length = digits n ∧ Same p.w m m' a' a := by
  have hw := hp.hw
  have hM := pow_ge2 p.w hw
  have hwi := hp.wi
  have c17 := hwi.get 17 rfl; have c18 := hwi.get 18 rfl; have c19 := hwi.get 19 rfl
  have c20 := hwi.get 20 rfl; have c21 := hwi.get 21 rfl; have c22 := hwi.get 22 rfl
  have c23 := hwi.get 23 rfl; have c24 := hwi.get 24 rfl
  have h17 := hp.addr_lt off_write_int 17 (by decide)
  intro n
  induction n using Nat.strongRecOn with
  | _ n ih =>
    intro m F a a' hn ha h5 hlen hasz hr
    obtain ⟨b, rfl⟩ : ∃ b, a = b + 1 := ⟨a - 1, by have := digits_pos n; omega⟩
    -- +20..+22: r1 += '0'; r0 -= 1; byte [r0] := r1
    obtain ⟨m1, x20, hr1, sm1⟩ := hr.wr1
      (hr.step_alu hw c20 (.inr (.inl rfl)) (hr.ev_r1 hw) (ev_imm_small hw (by decide))
        (alu_add_lt (Nat.lt_of_lt_of_le (Nat.add_lt_add_right (Nat.mod_lt n (by decide)) 48) (Nat.le_trans (by decide) hM))))
    obtain ⟨m2, x21, hr2, sm2⟩ := hr1.wr0
      (hr1.step_alu hw c21 (.inl rfl) (hr1.ev_r0 hw) (ev_imm_small hw (by decide))
        (alu_sub_le (Nat.le_add_left 1 b) ha))
    have hr2 : Regs p.w m2 F b (n % 10 + 48) (n / 10) := hr2
    have hb5 : 5 * p.w ≤ b := by have := digits_pos n; omega
    obtain ⟨m3, x22, hr3, sm3, hbyte⟩ := hr2.sb hw c22 hb5 (Nat.lt_of_succ_lt ha)
      (by rw [sm2.1, sm1.1]; exact hasz)
    rw [Nat.mod_eq_of_lt (Nat.lt_of_lt_of_le (Nat.add_lt_add_right (Nat.mod_lt n (by decide)) 48) (by decide))] at hbyte
    have sm : Same p.w m m3 b (b + 1) := ((sm1.trans0 sm2).of_zero _ _).trans sm3 (Nat.le_refl _) (Nat.le_refl _)
    have body := x20.trans (x21.trans x22)
    -- +23: j get_digits ; +24: hne r2, 0 ; get_digits (+17): heq r2, 0
    have z : ∀ pc, evalArg p ⟨pc, m3⟩ (.imm 0) = some 0 := fun _ => ev_imm_small hw (by decide)
    by_cases hlt : n < 10
    · have hz : n / 10 = 0 := Nat.div_eq_of_lt hlt
      have fall := jh_fall c23 c24 h17 (hr3.ev_r2 hw) (z _) (hne0.trans (decide_eq_false (not_not_intro hz)))
        (fun _ => hcond_halts c17 (hr3.ev_r2 hw) (z _) (heq0.trans (decide_eq_true hz)))
      rw [digits_lt n hlt, List.length_singleton] at hlen ⊢
      obtain rfl : a' = b := Nat.succ.inj hlen
      rw [hz] at hr3
      exact ⟨m3, _, body.trans fall, hr3, by simp [bytesAt, hbyte]; omega, sm⟩
    · have hnz : n / 10 ≠ 0 := by omega
      have back := jh_taken c23 c24 h17 (hr3.ev_r2 hw) (z _) (hne0.trans (decide_eq_true hnz))
      have x17 := hcond_pass c17 (hr3.ev_r2 hw) (z _) (heq0.trans (decide_eq_false hnz))
      obtain ⟨m5, x18, hr5, sm5⟩ := hr3.divmod10 hw hn c18 c19
      have dg := digits_ge n hlt
      rw [dg, List.length_append, List.length_singleton] at hlen ⊢
      have hlen' : a' + (digits (n / 10)).length = b := Nat.succ.inj hlen
      obtain ⟨m', r1', hreach, hregs, hbytes, hsame⟩ :=
        ih (n / 10) (by omega) m5 F b a' (Nat.lt_of_le_of_lt (Nat.div_le_self _ _) hn)
          (Nat.lt_of_succ_lt ha) h5 hlen'
          (by rw [sm5.1, sm.1]; exact Nat.le_of_succ_le hasz) hr5
      refine ⟨m', r1', body.trans (back.trans (x17.trans (x18.trans hreach))), hregs, ?_,
        ((sm.trans (sm5.of_zero _ _) (Nat.le_refl _) (Nat.le_refl _)).mono (hlen' ▸ Nat.le_add_right _ _)
          (Nat.le_refl _)).trans hsame (Nat.le_refl _) (Nat.le_succ b)⟩
      -- the new byte is the last digit; the rest is what the recursion wrote
      rw [bytesAt_snoc, hbytes, hlen', hsame.2 b (.inr hb5) (.inr (Nat.le_refl _)),
        sm5.2 b (.inr hb5) (.inr (Nat.zero_le _)), hbyte]

theorem push_loop (p : Prog) (B : Nat) (hp : Placed p B) :
    ∀ (n : Nat) (m : Mem) (F a : Nat),
      n / 10 < 256 ^ p.w / 2 → a < 256 ^ p.w → 5 * p.w + (digits n).length ≤ a → a ≤ m.size →
      Regs p.w m F a (n % 10) (n / 10) →
      ∃ m' r1', Reach (sphinx p) ⟨B + off_write_int + 20, m⟩ [] ⟨B + off_write_int + 25, m'⟩ ∧
        Regs p.w m' F (a - (digits n).length) r1' 0 ∧
        bytesAt m' (a - (digits n).length) (digits n).length = digits n ∧
        Same p.w m m' (a - (digits n).length) a :=
  fun n m F a hn ha hroom hasz hr =>
    push_loop_up p B hp n m F a (a - (digits n).length) hn ha (by omega) (by omega) hasz hr

theorem digit_loop (p : Prog) (B : Nat) (hp : Placed p B)
    (n : Nat) (m : Mem) (F a r1 : Nat)
    (hn : n < 256 ^ p.w / 2) (ha : a < 256 ^ p.w) (hroom : 5 * p.w + (digits n).length ≤ a)
    (hasz : a ≤ m.size) (hr : Regs p.w m F a r1 n) :
    ∃ m' r1', Reach (sphinx p) ⟨B + off_write_int + 18, m⟩ [] ⟨B + off_write_int + 25, m'⟩ ∧
      Regs p.w m' F (a - (digits n).length) r1' 0 ∧
      bytesAt m' (a - (digits n).length) (digits n).length = digits n ∧
      Same p.w m m' (a - (digits n).length) a := by
  obtain ⟨m2, x18, hr2, sm2⟩ := hr.divmod10 hp.hw hn (hp.wi.get 18 rfl) (hp.wi.get 19 rfl)
  obtain ⟨m', r1', hreach, hregs, hbytes, hsame⟩ :=
    push_loop p B hp n m2 F a (Nat.lt_of_le_of_lt (Nat.div_le_self _ _) hn) ha hroom (sm2.1 ▸ hasz) hr2
  exact ⟨m', r1', x18.trans hreach, hregs, hbytes,
    (sm2.of_zero _ _).trans hsame (Nat.le_refl _) (Nat.le_refl _)⟩

end HidVerif.Sphinx
