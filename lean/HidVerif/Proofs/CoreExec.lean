import HidVerif.Proofs.CoreStop
import HidVerif.Proofs.CoreCall
/-!
# Core compiler proofs: statement lists (`cS_ok`), by induction on the fuel of `exec`

The code of a list performs the events of the source run and ends where `Post` says: at the end of the code in a
state matching the new environment, at the return address, at the `break` or `continue` label of the enclosing
loop, in the `division_by_zero` or `stack_overflow` stub; a defeat halts the machine, or, inside the body of a
`try/stop`, leaves it at the handler.  `Proofs/CoreExecDefs` has the statement.
-/
namespace HidVerif.Core
open HidVerif HidVerif.PSys HidVerif.Sphinx HidVerif.Gen

theorem le_of_pre {a x r B : Nat} (h : a + (x + r) ≤ B) : a + x ≤ B :=
  Nat.le_trans (Nat.add_le_add_left (Nat.le_add_right _ _) _) h

section
variable {p : Prog} {ck : Bool} {B : Nat} {dA : Nat} {fa : FAddr} {fns : List FDecl}

/-- a defeat function is only called in a defeat context, where the situation knows the word `defeat` -/
theorem Safe.dfn_stop {lp : Jt} {md : Md} {sb dc : Bool} {Γ : Gam} {env' : Env} {F D ra o e : Nat} {m : Mem} {res : Res} {s : S} {g : String}
    (hs : Safe p B dA ra lp md sb dc fns Γ env' F D o e m res s) (hdv : (dc || !isDfn fns g) = true) (hd : isDfn fns g = true) :
    ∃ v, md = .stop dA v := by
  have hdc : dc = true := by simpa [hd] using hdv
  rcases hs with ⟨_, hvd, _⟩ | ⟨hmd, _⟩
  · refine (hvd.2 hdc).resolve_right (fun hall => ?_)
    unfold isDfn at hd
    cases hfind : fns.find? (fun fd => fd.name == g) with
    | none => simp [hfind] at hd
    | some fd => simp only [hfind] at hd; rw [hall fd (List.mem_of_find?_eq_some hfind)] at hd; cases hd
  · rw [hmd.2.1] at hdc; cases hdc

theorem call_stmt_fault (lib : Placed p B) (fok : FnsOK p ck B dA fa fns) (f : Nat) (ih : StmtOK p ck B dA fa fns f)
    {F D ra : Nat} (hra : ra < 256 ^ p.w) {lp : Jt} {md : Md} {sb dc : Bool} {s : S} {g : String} {args : List E} {Γ : Gam} {env : Env}
    {pc o e : Nat} {m : Mem} {trc : List Ev} {rf : Res} {rv : Option Nat}
    (hinv : SInv p md Γ env m F D o ra) (ho : p.w ≤ o)
    (hpl : PlacedAt p pc (cCall (cxOf p ck B dA) fa Γ pc o g args)) (hB : pc + (cCall (cxOf p ck B dA) fa Γ pc o g args).length ≤ B)
    (hba : args.all (boundE (Γ.map Prod.fst)) = true) (hpk : pkCall p.w o args ≤ D) (hdv : (dc || !isDfn fns g) = true)
    (hcw : callWith (256 ^ p.w) (8 * p.w) fns p.w (exec (256 ^ p.w) (8 * p.w) fns p.w f) D o env g args = some (trc, some rf, rv))
    (hck : FaultOK ck fns p.w rf) (hs : Safe p B dA ra lp md sb dc fns Γ env F D o e m rf s) :
    Concl p B ra lp md Γ env F D o pc e m trc rf := by
  have hdfc := hs.dfn_stop hdv
  have hNb : isDfn fns g = true → md.isYou = false := fun hd => by obtain ⟨v, hv⟩ := hdfc hd; rw [hv]; rfl
  have hc := call_ok lib fok f ih F D ra hra md Γ env pc o m hinv ho g args trc (some rf) rv hpl hB hba hpk hcw (fun r h => by cases h; exact hck) hdfc
    (fun hd => by
      rcases hs with ⟨_, _, _, hwld⟩ | ⟨hmd, _⟩
      · exact hwld.imp id (fun hf => ⟨nofun, fun h st' hp => by cases h; exact hf.2 st' hp⟩)
      · rw [hNb hd] at hmd; exact absurd hmd.1 (by decide))
  rcases callWith_fault hcw with h | h | ⟨h, hd⟩ <;> subst h
  · obtain ⟨m', r⟩ := hc.1 rfl
    exact ⟨fun h => absurd h (by decide), fun _ => ⟨⟨_, m'⟩, r, rfl⟩⟩
  · obtain ⟨m', r⟩ := hc.2.1 rfl
    exact ⟨fun h => absurd h (by decide), fun _ => ⟨⟨_, m'⟩, r, rfl⟩⟩
  · obtain ⟨st', r, hp⟩ := hc.2.2.2 rfl
    refine ⟨fun _ hf => ?_, fun _ => ⟨st', r, hp⟩⟩
    -- a defeat context that is not the body of a `try/stop`: the handler is a `halt`
    rcases hs with ⟨_, _, _, hwld⟩ | ⟨hmd, _⟩
    · rcases hwld with hW | ⟨hv, _⟩
      · obtain ⟨a, v, e, hpcv, _, _⟩ := hp
        obtain ⟨pc', m'⟩ := st'
        simp only at hpcv; subst hpcv
        exact r.1 (hW a _ e m')
      · rw [hf] at hv; cases hv
    · rw [hNb hd] at hmd; exact absurd hmd.1 (by decide)

theorem call_stmt_ok (lib : Placed p B) (fok : FnsOK p ck B dA fa fns) (f : Nat) (ih : StmtOK p ck B dA fa fns f)
    {F D ra : Nat} (hra : ra < 256 ^ p.w) {lp : Jt} {md : Md} {sb dc : Bool} {s : S} {g : String} {args : List E} {Γ : Gam} {env env' : Env}
    {pc o e : Nat} {m : Mem} {trc tr : List Ev} {res : Res} {rv : Option Nat}
    (hinv : SInv p md Γ env m F D o ra) (ho : p.w ≤ o)
    (hpl : PlacedAt p pc (cCall (cxOf p ck B dA) fa Γ pc o g args)) (hB : pc + (cCall (cxOf p ck B dA) fa Γ pc o g args).length ≤ B)
    (hba : args.all (boundE (Γ.map Prod.fst)) = true) (hpk : pkCall p.w o args ≤ D) (hdv : (dc || !isDfn fns g) = true)
    (hcw : callWith (256 ^ p.w) (8 * p.w) fns p.w (exec (256 ^ p.w) (8 * p.w) fns p.w f) D o env g args = some (trc, none, rv))
    (hs : Safe p B dA ra lp md sb dc fns Γ env' F D o e m res s)
    (rest : ∀ m1, Keep p.w m m1 (F - o) → (∀ v, rv = some v → m1.readLE (F - (o + p.w)) p.w = v) →
      Concl p B ra lp md Γ env' F D o (pc + (cCall (cxOf p ck B dA) fa Γ pc o g args).length) e m1 tr res) :
    Concl p B ra lp md Γ env' F D o pc e m (trc ++ tr) res := by
  have hdfc := hs.dfn_stop hdv
  obtain ⟨m1, r1, k1, hv1⟩ := (call_ok lib fok f ih F D ra hra md Γ env pc o m hinv ho g args trc none rv hpl hB hba hpk hcw (fun r h => by cases h) hdfc
    (fun hd => by
      rcases hs with ⟨_, _, _, hwld⟩ | ⟨hmd, _⟩
      · refine hwld.imp id (fun hf => ⟨fun _ m' k' hval => ?_, nofun⟩)
        obtain ⟨st', r2, hp2⟩ := (rest m' k' hval).2 (fun _ => hf.1)
        exact (r2.exec (hf.2 st' (hp2.rebase (k'.mono (Nat.sub_le _ _)).kb))).2
      · obtain ⟨v, hv⟩ := hdfc hd
        rw [hv] at hmd; exact absurd hmd.1 Bool.false_ne_true)).2.2.1 rfl
  exact Concl.pre r1 (k1.mono (Nat.sub_le _ _)) (rest m1 k1 hv1) (fun _ h => h)

theorem stVar_ok (hw : 2 ≤ p.w) {md : Md} {Γ : Gam} {env : Env} {m : Mem} {F D o ra pc v : Nat} {x : String} {a : Arg}
    (hinv : SInv p md Γ env m F D o ra) (hd : Disj p.w Γ) (hxin : (Γ.map Prod.fst).contains x = true) (hoD : o ≤ D)
    (hpl : PlacedAt p pc [stSlot (cxOf p ck B dA) (look Γ x) a]) (ev : evalArg p ⟨pc, m⟩ a = some v) (hvM : v < 256 ^ p.w) :
    Reach (sphinx p) ⟨pc, m⟩ [] ⟨pc + 1, m.writeLE (F - look Γ x) p.w v⟩ ∧ Keep p.w m (m.writeLE (F - look Γ x) p.w v) F ∧
    SInv p md Γ (upd env x v) (m.writeLE (F - look Γ x) p.w v) F D o ra := by
  obtain ⟨hx1, hx2, _⟩ := hinv.vars x hxin
  have hroom := hinv.fr.room
  exact ⟨st_reach (ck := ck) (dA := dA) (B := B) hw hinv.fr (look Γ x) _ v hpl ev (Nat.le_trans (Nat.le_mul_of_pos_left _ (by decide)) hx1) (Nat.le_trans hx2 hoD),
    Keep.write _ _ _ _ _ _ (by omega) (by omega), assign_inv hinv hd x v hvM hxin hoD⟩

theorem retv_ok (hw : 2 ≤ p.w) {F D ra pc v : Nat} {m : Mem} {v' : Opd} (fr : Fr p m F D) (hraw : m.readLE (F - p.w) p.w = ra)
    (hra : ra < 256 ^ p.w) (hwD : p.w ≤ D) (harg : IsArg p.w v') (hval : valOf p.w m F v' = v)
    (hreg : (∃ i, v' = .imm i) ∨ v' = .reg (2 * p.w))
    (hpl : PlacedAt p pc [ldSlot (cxOf p ck B dA) (3 * p.w) p.w, stSlot (cxOf p ck B dA) p.w (v'.arg (cxOf p ck B dA)),
      .j (.st (3 * p.w)), .halt]) :
    ∃ m3, Reach (sphinx p) ⟨pc, m⟩ [] ⟨ra, m3⟩ ∧ Keep p.w m m3 F ∧ m3.readLE (F - p.w) p.w = v := by
  have hroom := fr.room
  obtain ⟨c0, hpl1⟩ := placed_cons hpl
  obtain ⟨c1, hpl2⟩ := placed_cons hpl1
  obtain ⟨c2, hpl3⟩ := placed_cons hpl2
  have s0 := step_ldSlot ck B (3 * p.w) p.w hw fr c0 (Nat.le_refl _) hwD (r1_ok p.w).2
  rw [hraw] at s0
  have k12 : Keep p.w m (m.writeLE (3 * p.w) p.w ra) F := Keep.write _ _ _ _ _ _ (r1_ok p.w).1 (hroom ▸ Nat.le_trans (r1_ok p.w).2 (Nat.le_add_right _ _))
  have hval2 : valOf p.w (m.writeLE (3 * p.w) p.w ra) F v' = v := by
    rw [valOf_write_away _ _ _ _ _ _ (by
      rcases hreg with ⟨i, hi⟩ | hr
      · rw [hi]; trivial
      · rw [hr]; exact Or.inl (r0_r1 p.w))]
    exact hval
  have fr2 := fr.keep k12
  have hr2 : (m.writeLE (3 * p.w) p.w ra).readLE (3 * p.w) p.w = ra :=
    Option.some.inj ((fr2.ev_st (pc := pc) hw (r1_ok p.w).2).symm.trans (fr.ev_wr hw (r1_ok p.w) hra))
  generalize hm2 : m.writeLE (3 * p.w) p.w ra = m2 at s0 k12 hval2 fr2 hr2
  have ev := ev_arg_any (ck := ck) (dA := dA) (B := B) hw fr2 (pc + 1) v' harg
  rw [hval2] at ev
  have s1 := step_stSlot ck B p.w _ v hw fr2 c1 ev (Nat.le_refl _) hwD
  have hvM : v < 256 ^ p.w := hval ▸ valOf_lt _ _ _ _
  have htop := fr2.top
  have k23 : Keep p.w m2 (m2.writeLE (F - p.w) p.w v) F := Keep.write _ _ _ _ _ _ (by omega) (by omega)
  have ht : evalArg p ⟨pc + 1 + 1, m2.writeLE (F - p.w) p.w v⟩ (.st (3 * p.w)) = some ra := by
    rw [(fr2.keep k23).ev_st hw (r1_ok p.w).2, Mem.readLE_writeLE_disj _ _ _ _ _ _ (by omega), hr2]
  refine ⟨_, ?_, k12.trans' k23, ?_⟩
  · simpa [evl] using (Reach.of_next (sys := sphinx p) s0).trans ((Reach.of_next (sys := sphinx p) s1).trans (jump_halt c2 (placed_one hpl3) ht))
  · rw [Mem.readLE_writeLE_same _ _ _ _ (by omega)]
    exact Nat.mod_eq_of_lt hvM

theorem cond_ok (lib : Placed p B) {Γ : Gam} {env : Env} {F D pc o t nC : Nat} {c : Core.B} {m : Mem}
    (hnC : lenB ck c 0 2 false true = nC) (hplA : PlacedAt p pc (cB (cxOf p ck B dA) Γ pc o c [] (goto t))) (hB : pc + nC ≤ B)
    (ht : t < 256 ^ p.w) (fr : Fr p m F D) (hv : VarsOK p.w Γ env m F o) (hbc : boundB (Γ.map Prod.fst) c = true)
    (hpk : pkB p.w o c ≤ D) (ho : p.w ≤ o) :
    (∀ bv, evalB (256 ^ p.w) (8 * p.w) env c = some bv →
      ∃ m', Reach (sphinx p) ⟨pc, m⟩ [] ⟨if bv = true then pc + nC else t, m'⟩ ∧ Keep p.w m m' (F - o)) ∧
    (evalB (256 ^ p.w) (8 * p.w) env c = none → ck = true → ∃ m', Reach (sphinx p) ⟨pc, m⟩ [] ⟨B + off_division_by_zero, m'⟩) := by
  have hlen : (cB (cxOf p ck B dA) Γ pc o c (brCode none) (brCode (some t))).length = nC := by
    rw [cB_len, ← hnC]; simp [brCode]
  have hc := cB_ok (ck := ck) (dA := dA) lib Γ env F D c pc o none (some t) m hplA (by rw [hlen]; exact hB)
    (fun x hx => by cases hx) (fun x hx => by cases hx; exact ht) fr hv hbc hpk ho
  rw [hlen] at hc
  refine ⟨fun bv h => ?_, hc.2⟩
  obtain ⟨m', r, k⟩ := hc.1 bv h
  cases bv
  · exact ⟨m', by simpa using r, k⟩
  · exact ⟨m', by simpa using r, k⟩

/-- `W` is a block, or an `if` of which `X` is the branch taken; `gX` leads from the end of `X` to the rest `k` -/
theorem seq_ok {f : Nat} (ih : StmtOK p ck B dA fa fns f) {F D ra : Nat} (hra : ra < 256 ^ p.w) {lp : Jt}
    (hlp : lp.cont < 256 ^ p.w ∧ lp.brk < 256 ^ p.w) {md : Md} {sb dc : Bool} {W X k : S} {Γ : Gam} {env env' : Env}
    {pc pcX nX pcK o e : Nat} {m m0 : Mem} {tr : List Ev} {res : Res}
    (r0 : Reach (sphinx p) ⟨pc, m⟩ [] ⟨pcX, m0⟩) (km0 : Keep p.w m m0 F) (hinv0 : SInv p md Γ env m0 F D o ra) (hd : Disj p.w Γ) (ho : p.w ≤ o)
    (hlenX : (cS (cxOf p ck B dA) fa lp Γ pcX o X).length = nX) (hplX : PlacedAt p pcX (cS (cxOf p ck B dA) fa lp Γ pcX o X)) (hBX : pcX + nX ≤ B)
    (gX : ∀ m1, Reach (sphinx p) ⟨pcX + nX, m1⟩ [] ⟨pcK, m1⟩)
    (hplK : PlacedAt p pcK (cS (cxOf p ck B dA) fa lp Γ pcK o k)) (he : pcK + (cS (cxOf p ck B dA) fa lp Γ pcK o k).length = e) (hB : e ≤ B)
    (hwX : wfS fns dc (Γ.map Prod.fst) X = true) (hwk : wfS fns dc (Γ.map Prod.fst) k = true) (hpkX : pkS p.w o X ≤ D) (hpkk : pkS p.w o k ≤ D)
    (hntX : noTry W = true → noTry X = true) (hntk : noTry W = true → noTry k = true)
    (hylX : youLevel sb fns W = true → youLevel sb fns X = true) (hylk : youLevel sb fns W = true → youLevel sb fns k = true)
    (hex : exec (256 ^ p.w) (8 * p.w) fns p.w (f + 1) D o env (.block X k) = some (env', tr, res)) (hck : FaultOK ck fns p.w res)
    (hs : Safe p B dA ra lp md sb dc fns Γ env' F D o e m res W) :
    Concl p B ra lp md Γ env' F D o pc e m tr res := by
  subst he
  have hnd : youLevel sb fns W = true → res ≠ .defeat := fun h =>
    exec_no_defeat _ _ _ _ sb _ _ _ _ _ _ _ _ (by simp only [youLevel, hylX h, hylk h, Bool.and_self]) hex
  rw [exec_block] at hex
  obtain ⟨⟨env1, tr1, res1⟩, hb1, hex⟩ := bind_some hex
  dsimp only at hex
  have runX : FaultOK ck fns p.w res1 → Safe p B dA ra lp md sb dc fns Γ env1 F D o (pcX + nX) m0 res1 X →
      Concl p B ra lp md Γ env1 F D o pcX (pcX + nX) m0 tr1 res1 := by
    intro hfo hsX
    have := ih F D ra hra lp hlp md sb dc X Γ env pcX o m0 env1 tr1 res1 hplX (by rw [hlenX]; exact hBX) hinv0 hd hwX hpkX ho hb1 hfo
      (by rw [hlenX]; exact hsX)
    rwa [hlenX] at this
  by_cases hn : res1 = .norm
  · subst hn
    rw [if_pos rfl] at hex
    obtain ⟨⟨envk, trk, resk⟩, hk, hex⟩ := bind_some hex
    cases hex
    have contK : ∀ m1, SInv p md Γ env1 m1 F D o ra → Keep p.w m m1 (md.kb F p.w) → Concl p B ra lp md Γ envk F D o pcK _ m1 trk resk :=
      fun m1 hi1 km1 => ih F D ra hra lp hlp md sb dc k Γ env1 pcK o m1 envk trk resk hplK hB hi1 hd hwk hpkk ho hk hck
        (hs.sub' hntk hylk km1 (fun _ h => h))
    have hsX := hs.of_fin (lpX := lp) (resX := .norm) (envX := env1) (eX := pcX + nX) rfl hntX hylX km0.kb hnd
      (fun hprem h2 st1 hp1 => no_halt_of_cont (fun m1 hi1 km1 => Concl.pre' (gX m1) (Keep.refl _ _ _) (contK m1 hi1 km1) (fun _ h => h))
        km0.kb hprem h2 hp1)
    obtain ⟨st1, r1, hp1⟩ := (runX trivial hsX).2 (nd (by decide))
    obtain ⟨pc1, m1⟩ := st1
    obtain ⟨hpc1, hi1, k01⟩ := hp1
    dsimp only at hpc1 hi1 k01
    subst hpc1
    have km := km0.kb.trans' k01
    exact Concl.pre' (by simpa using r0.trans (r1.trans (gX m1))) km (contK m1 hi1 km) (fun _ h => h)
  · rw [if_neg hn] at hex
    cases hex
    simpa using Concl.pre r0 km0 (runX hck (hs.sub hntX hylX km0 (fun _ h => h.of_ne_norm hn))) (fun _ h => h.of_ne_norm hn)

theorem loop_ok (lib : Placed p B) (f : Nat) (ih : StmtOK p ck B dA fa fns f)
    (F D ra : Nat) (hra : ra < 256 ^ p.w) (lp : Jt) (hlp : lp.cont < 256 ^ p.w ∧ lp.brk < 256 ^ p.w) (md : Md) (sb dc : Bool)
    (c : Core.B) (body cont k : S) (Γ : Gam) (env : Env) (pc o : Nat) (m : Mem) (env' : Env) (tr : List Ev) (res : Res)
    (hpl : PlacedAt p pc (cS (cxOf p ck B dA) fa lp Γ pc o (.loop c body cont k)))
    (hB : pc + (cS (cxOf p ck B dA) fa lp Γ pc o (.loop c body cont k)).length ≤ B)
    (hinv : SInv p md Γ env m F D o ra) (hd : Disj p.w Γ) (hwf : wfS fns dc (Γ.map Prod.fst) (.loop c body cont k) = true)
    (hpk : pkS p.w o (.loop c body cont k) ≤ D) (ho : p.w ≤ o)
    (hex : exec (256 ^ p.w) (8 * p.w) fns p.w (f + 1) D o env (.loop c body cont k) = some (env', tr, res))
    (hck : FaultOK ck fns p.w res)
    (hs : Safe p B dA ra lp md sb dc fns Γ env' F D o (pc + (cS (cxOf p ck B dA) fa lp Γ pc o (.loop c body cont k)).length) m res
      (.loop c body cont k)) :
    Concl p B ra lp md Γ env' F D o pc (pc + (cS (cxOf p ck B dA) fa lp Γ pc o (.loop c body cont k)).length) m tr res := by
  have hw := lib.hw
  have hwf0 := hwf
  have hpk0 := hpk
  have hpl0 := hpl
  have hB0 := hB
  have hs0 := hs
  simp only [wfS, Bool.and_eq_true] at hwf
  obtain ⟨⟨⟨hbc, hwb⟩, hwc⟩, hwk⟩ := hwf
  simp only [pkS, Nat.max_le] at hpk
  simp only [cS] at hpl hB hs ⊢
  have hlenA : ∀ a, (cB (cxOf p ck B dA) Γ pc o c [] (goto a)).length = lenB ck c 0 2 false true := fun _ => by rw [cB_len]; simp
  generalize hnC : lenB ck c 0 2 false true = nC at *
  have hlenT : ∀ a b, (cS (cxOf p ck B dA) fa ⟨a, b, lp.vd⟩ Γ (pc + nC) o body).length = lenS ck lp.vd body := fun _ _ => cS_len _ _ _ _ _ _ _
  have hlenE : ∀ a, (cS (cxOf p ck B dA) fa lp Γ a o cont).length = lenS ck lp.vd cont := fun _ => cS_len _ _ _ _ _ _ _
  generalize hnT : lenS ck lp.vd body = nT at *
  generalize hnE : lenS ck lp.vd cont = nE at *
  obtain ⟨hpl1234, hplK⟩ := hpl.append
  obtain ⟨hpl123, hplG⟩ := hpl1234.append
  obtain ⟨hpl12, hplE⟩ := hpl123.append
  obtain ⟨hplA, hplT⟩ := hpl12.append
  simp only [List.length_append, hlenA, hlenT, hlenE, goto_len, ← Nat.add_assoc] at hB hplK hplE hplG hplT hs ⊢
  have hB2 : pc + nC + nT + nE + 2 ≤ B := Nat.le_of_add_right_le hB
  have hBw := lib.lt 0 (Nat.zero_le _)
  have hendM := Nat.lt_of_le_of_lt hB2 hBw
  have etot : pc + (cS (cxOf p ck B dA) fa lp Γ pc o (.loop c body cont k)).length
      = pc + nC + nT + nE + 2 + (cS (cxOf p ck B dA) fa lp Γ (pc + nC + nT + nE + 2) o k).length := by
    simp only [cS, hnC, hnT, hnE, List.length_append, hlenA, hlenT, hlenE, goto_len]; omega
  -- the induction hypothesis on the loop itself
  have nextRound : ∀ {env2 env3 : Env} {tr3 : List Ev} {res3 : Res},
      exec (256 ^ p.w) (8 * p.w) fns p.w f D o env2 (.loop c body cont k) = some (env3, tr3, res3) → FaultOK ck fns p.w res3 →
      Safe p B dA ra lp md sb dc fns Γ env3 F D o (pc + nC + nT + nE + 2 + (cS (cxOf p ck B dA) fa lp Γ (pc + nC + nT + nE + 2) o k).length) m res3
        (.loop c body cont k) →
      ∀ m2, SInv p md Γ env2 m2 F D o ra → Keep p.w m m2 (md.kb F p.w) →
      Concl p B ra lp md Γ env3 F D o pc (pc + nC + nT + nE + 2 + (cS (cxOf p ck B dA) fa lp Γ (pc + nC + nT + nE + 2) o k).length) m2 tr3 res3 := by
    intro env2 env3 tr3 res3 hb3 hck3 hs3 m2 hi2 km2
    have := ih F D ra hra lp hlp md sb dc (.loop c body cont k) Γ env2 pc o m2 env3 tr3 res3 hpl0 hB0 hi2 hd hwf0 hpk0 ho hb3 hck3
      (by rw [etot]; exact hs3.sub' (fun h => h) (fun h => h) km2 (fun _ h => h))
    rw [etot] at this; exact this
  clear etot hB0 hpl0 hwf0 hpk0 hs0
  have hc := cond_ok lib hnC hplA (Nat.le_of_add_right_le (Nat.le_of_add_right_le (Nat.le_of_add_right_le hB2))) hendM hinv.fr hinv.vars hbc hpk.1.1 ho
  cases hev : evalB (256 ^ p.w) (8 * p.w) env c with
  | none =>
    rw [exec_loop, hev] at hex; cases hex
    obtain ⟨m', r⟩ := hc.2 hev hck
    exact Concl.div0 r
  | some cv =>
    obtain ⟨m0, r0, k0⟩ := hc.1 cv hev
    have hinv0 := hinv.keep k0 ho
    have km0 : Keep p.w m m0 F := k0.mono (Nat.sub_le _ _)
    cases cv with
    | false =>
      rw [exec_loop, hev] at hex
      rw [if_neg Bool.false_ne_true] at r0
      have hkk := ih F D ra hra lp hlp md sb dc k Γ env (pc + nC + nT + nE + 2) o m0 env' tr res hplK hB hinv0 hd hwk hpk.2.2 ho hex hck
        (hs.sub (by simp only [noTry, Bool.and_eq_true]; exact fun h => h.2)
          (by simp only [youLevel, Bool.and_eq_true]; exact fun h => h.2) km0 (post_conv rfl))
      simpa using Concl.pre r0 km0 hkk (post_conv rfl)
    | true =>
      have hnd : youLevel sb fns (.loop c body cont k) = true → res ≠ .defeat :=
        fun h => exec_no_defeat _ _ _ _ _ _ _ _ _ _ _ _ _ h hex
      rw [exec_loop, hev] at hex
      rw [if_pos rfl] at r0
      have hlpB : pc + nC + nT < 256 ^ p.w ∧ pc + nC + nT + nE + 2 < 256 ^ p.w := ⟨Nat.lt_of_le_of_lt (Nat.le_of_add_right_le (Nat.le_of_add_right_le hB2)) hBw, hendM⟩
      obtain ⟨⟨env1, tr1, res1⟩, hb1, hex⟩ := bind_some hex
      dsimp only at hex
      have hntB : noTry (.loop c body cont k) = true → noTry body = true := by
        simp only [noTry, Bool.and_eq_true]; exact fun h => h.1.1
      have hylB : youLevel sb fns (.loop c body cont k) = true → youLevel sb fns body = true := by
        simp only [youLevel, Bool.and_eq_true]; exact fun h => h.1.1
      have hntC : noTry (.loop c body cont k) = true → noTry cont = true := by
        simp only [noTry, Bool.and_eq_true]; exact fun h => h.1.2
      have hylC : youLevel sb fns (.loop c body cont k) = true → youLevel sb fns cont = true := by
        simp only [youLevel, Bool.and_eq_true]; exact fun h => h.1.2
      have runBody : FaultOK ck fns p.w res1 →
          Safe p B dA ra ⟨pc + nC + nT, pc + nC + nT + nE + 2, lp.vd⟩ md sb dc fns Γ env1 F D o (pc + nC + nT) m0 res1 body →
          Concl p B ra ⟨pc + nC + nT, pc + nC + nT + nE + 2, lp.vd⟩ md Γ env1 F D o (pc + nC) (pc + nC + nT) m0 tr1 res1 := by
        intro hfo hsb
        have := ih F D ra hra ⟨pc + nC + nT, pc + nC + nT + nE + 2, lp.vd⟩ hlpB md sb dc body Γ env (pc + nC) o m0 env1 tr1 res1 hplT
          (by rw [hlenT]; exact Nat.le_of_add_right_le (Nat.le_of_add_right_le hB2)) hinv0 hd hwb hpk.1.2 ho hb1 hfo (by rw [hlenT]; exact hsb)
        rwa [hlenT] at this
      have runCont : ∀ (env2 : Env) (tr2 : List Ev) (res2 : Res), exec (256 ^ p.w) (8 * p.w) fns p.w f D o env1 cont = some (env2, tr2, res2) →
          FaultOK ck fns p.w res2 → ∀ m1, SInv p md Γ env1 m1 F D o ra →
          Safe p B dA ra lp md sb dc fns Γ env2 F D o (pc + nC + nT + nE) m1 res2 cont →
          Concl p B ra lp md Γ env2 F D o (pc + nC + nT) (pc + nC + nT + nE) m1 tr2 res2 := by
        intro env2 tr2 res2 hb2 hfo m1 hi1 hsc
        have := ih F D ra hra lp hlp md sb dc cont Γ env1 (pc + nC + nT) o m1 env2 tr2 res2 hplE (by rw [hlenE]; exact Nat.le_of_add_right_le hB2) hi1 hd hwc hpk.2.1 ho hb2 hfo
          (by rw [hlenE]; exact hsc)
        rwa [hlenE] at this
      by_cases hn1 : res1 = .norm ∨ res1 = .cnt
      · rw [if_pos hn1] at hex
        have hfo1 : FaultOK ck fns p.w res1 := by rcases hn1 with h | h <;> rw [h] <;> trivial
        have hnd1 : res1 ≠ .defeat := by rcases hn1 with h | h <;> rw [h] <;> decide
        have postNC : ∀ (mx : Mem) st, Post p B ra ⟨pc + nC + nT, pc + nC + nT + nE + 2, lp.vd⟩ md Γ env1 F D o (pc + nC + nT) mx res1 st →
            st.pc = pc + nC + nT ∧ SInv p md Γ env1 st.mem F D o ra ∧ Keep p.w mx st.mem (md.kb F p.w) := by
          intro mx st h
          rcases hn1 with h1 | h1 <;> subst h1 <;> exact h
        obtain ⟨⟨env2, tr2, res2⟩, hb2, hex⟩ := bind_some hex
        dsimp only at hex
        -- the situation of the `continue` part, given what happens after it, and with it that of the body
        have situations : ∀ (_ : FaultOK ck fns p.w res2) (_ : (res = .defeat → lp.vd = true) → res2 = .defeat → lp.vd = true)
            (_ : ∀ m1, Keep p.w m m1 (md.kb F p.w) → (res = .defeat → lp.vd = true) →
              (∀ st', Post p B ra lp md Γ env' F D o (pc + nC + nT + nE + 2 + (cS (cxOf p ck B dA) fa lp Γ (pc + nC + nT + nE + 2) o k).length) m res st' →
                ¬ Halts (sphinx p) st') →
              ∀ st2, Post p B ra lp md Γ env2 F D o (pc + nC + nT + nE) m1 res2 st2 → ¬ Halts (sphinx p) st2),
            (∀ m1, Keep p.w m m1 (md.kb F p.w) → Safe p B dA ra lp md sb dc fns Γ env2 F D o (pc + nC + nT + nE) m1 res2 cont) ∧
            Safe p B dA ra ⟨pc + nC + nT, pc + nC + nT + nE + 2, lp.vd⟩ md sb dc fns Γ env1 F D o (pc + nC + nT) m0 res1 body := by
          intro fo2 hd2 finC
          have hsc : ∀ m1, Keep p.w m m1 (md.kb F p.w) → Safe p B dA ra lp md sb dc fns Γ env2 F D o (pc + nC + nT + nE) m1 res2 cont :=
            fun m1 km1 => hs.of_fin rfl hntC hylC km1 hnd (finC m1 km1)
          refine ⟨hsc, hs.of_fin rfl hntB hylB km0.kb hnd (fun hprem h2 st1 hp1 => ?_)⟩
          obtain ⟨pc1, m1⟩ := st1
          obtain ⟨hpc1, hi1, k01⟩ := postNC m0 _ hp1
          dsimp only at hpc1 hi1 k01
          subst hpc1
          have km1 := km0.kb.trans' k01
          obtain ⟨st2, r2, hp2⟩ := (runCont env2 tr2 res2 hb2 fo2 m1 hi1 (hsc m1 km1)).2 (hd2 hprem)
          exact (r2.exec (finC m1 km1 hprem h2 st2 hp2)).2
        have toContEnd : (∀ m1, Keep p.w m m1 (md.kb F p.w) → Safe p B dA ra lp md sb dc fns Γ env2 F D o (pc + nC + nT + nE) m1 res2 cont) →
            Safe p B dA ra ⟨pc + nC + nT, pc + nC + nT + nE + 2, lp.vd⟩ md sb dc fns Γ env1 F D o (pc + nC + nT) m0 res1 body →
            FaultOK ck fns p.w res2 →
            ∃ m1, Reach (sphinx p) ⟨pc, m⟩ tr1 ⟨pc + nC + nT, m1⟩ ∧ Keep p.w m m1 (md.kb F p.w) ∧
              Concl p B ra lp md Γ env2 F D o (pc + nC + nT) (pc + nC + nT + nE) m1 tr2 res2 := by
          intro hsc hsbd fo2
          obtain ⟨st1, r1, hp1⟩ := (runBody hfo1 hsbd).2 (nd hnd1)
          obtain ⟨pc1, m1⟩ := st1
          obtain ⟨hpc1, hi1, k01⟩ := postNC m0 _ hp1
          dsimp only at hpc1 hi1 k01
          subst hpc1
          have km1 := km0.kb.trans' k01
          exact ⟨m1, by simpa using r0.trans r1, km1, runCont env2 tr2 res2 hb2 fo2 m1 hi1 (hsc m1 km1)⟩
        by_cases hn2 : res2 = .norm
        · subst hn2
          rw [if_pos rfl] at hex
          obtain ⟨⟨env3, tr3, res3⟩, hb3, hex⟩ := bind_some hex
          cases hex
          have fromContEnd := fun m2 hi2 km2 => (nextRound hb3 hck hs m2 hi2 km2).goto hplG (Nat.lt_of_le_of_lt (Nat.le_of_add_right_le (Nat.le_of_add_right_le (Nat.le_of_add_right_le (Nat.le_of_add_right_le hB2)))) hBw)
          obtain ⟨hsc, hsbd⟩ := situations trivial (fun _ => nd (by decide)) (fun m1 km1 hprem h2 st2 hp2 =>
            no_halt_of_cont fromContEnd km1 hprem h2 hp2)
          obtain ⟨m1, r01, km1, hcc⟩ := toContEnd hsc hsbd trivial
          obtain ⟨st2, r2, hp2⟩ := hcc.2 (nd (by decide))
          obtain ⟨pc2, m2⟩ := st2
          obtain ⟨hpc2, hi2, k12⟩ := hp2
          dsimp only at hpc2 hi2 k12
          subst hpc2
          exact Concl.pre' (by simpa using r01.trans r2) (km1.trans' k12) (fromContEnd m2 hi2 (km1.trans' k12)) (fun _ h => h)
        · rw [if_neg hn2] at hex
          cases hex
          obtain ⟨hsc, hsbd⟩ := situations hck id (fun m1 km1 _ h2 st2 hp2 => h2 st2 ((hp2.of_ne_norm hn2).rebase km1))
          obtain ⟨m1, r01, km1, hcc⟩ := toContEnd hsc hsbd hck
          exact Concl.pre' r01 km1 hcc (fun _ h => h.of_ne_norm hn2)
      · rw [if_neg hn1] at hex
        by_cases hbk : res1 = .brk
        · -- `break`: the rest of the list, from the `break` label
          subst hbk
          rw [if_pos rfl] at hex
          obtain ⟨⟨env3, tr3, res3⟩, hk, hex⟩ := bind_some hex
          cases hex
          have contK : ∀ m1, SInv p md Γ env1 m1 F D o ra → Keep p.w m m1 (md.kb F p.w) →
              Concl p B ra lp md Γ env3 F D o (pc + nC + nT + nE + 2)
                (pc + nC + nT + nE + 2 + (cS (cxOf p ck B dA) fa lp Γ (pc + nC + nT + nE + 2) o k).length) m1 tr3 res3 :=
            fun m1 hi1 km1 => ih F D ra hra lp hlp md sb dc k Γ env1 (pc + nC + nT + nE + 2) o m1 env3 tr3 res3 hplK hB hi1 hd hwk hpk.2.2 ho hk hck
              (hs.sub' (by simp only [noTry, Bool.and_eq_true]; exact fun h => h.2)
                (by simp only [youLevel, Bool.and_eq_true]; exact fun h => h.2) km1 (post_conv rfl))
          have hsbd := hs.of_fin (lpX := ⟨pc + nC + nT, pc + nC + nT + nE + 2, lp.vd⟩) (resX := .brk) (envX := env1) (eX := pc + nC + nT)
            rfl hntB hylB km0.kb hnd (fun hprem h2 st1 hp1 => no_halt_of_cont contK km0.kb hprem h2 hp1)
          obtain ⟨st1, r1, hp1⟩ := (runBody trivial hsbd).2 (nd (by decide))
          obtain ⟨pc1, m1⟩ := st1
          obtain ⟨hpc1, hi1, k01⟩ := hp1
          dsimp only at hpc1 hi1 k01
          subst hpc1
          have km1 := km0.kb.trans' k01
          have r01 : Reach (sphinx p) ⟨pc, m⟩ tr1 ⟨pc + nC + nT + nE + 2, m1⟩ := by simpa using r0.trans r1
          exact Concl.pre' r01 km1 (contK m1 hi1 km1) (post_conv rfl)
        · -- any other exit of the body is an exit of the whole loop
          rw [if_neg hbk] at hex
          cases hex
          have convB : ∀ (e1 e2 : Nat) (mx : Mem) st',
              Post p B ra ⟨pc + nC + nT, pc + nC + nT + nE + 2, lp.vd⟩ md Γ env' F D o e1 mx res st' → Post p B ra lp md Γ env' F D o e2 mx res st' :=
            fun _ _ _ _ h => h.ends (fun e => absurd (Or.inl e) hn1) (fun e => absurd e hbk) (fun e => absurd (Or.inr e) hn1)
          have hbb := runBody hck (hs.of_fin rfl hntB hylB km0.kb hnd (fun _ h2 st1 hp1 => h2 st1 (convB _ _ m st1 (hp1.rebase km0.kb))))
          refine ⟨fun hd' hv => r0.1 (hbb.1 hd' hv), fun hn' => ?_⟩
          obtain ⟨st', r2, hp⟩ := hbb.2 hn'
          exact ⟨st', by simpa using r0.trans r2, convB _ _ m st' (hp.rebase km0.kb)⟩

theorem tryUndo_ok (lib : Placed p B) (f : Nat) (ih : StmtOK p ck B dA fa fns f)
    (F D ra : Nat) (hra : ra < 256 ^ p.w) (lp : Jt) (hlp : lp.cont < 256 ^ p.w ∧ lp.brk < 256 ^ p.w) (md : Md) (sb dc : Bool)
    (body handler k : S) (Γ : Gam) (env : Env) (pc o : Nat) (m : Mem) (env' : Env) (tr : List Ev) (res : Res)
    (hpl : PlacedAt p pc (cS (cxOf p ck B dA) fa lp Γ pc o (.tryUndo body handler k)))
    (hB : pc + (cS (cxOf p ck B dA) fa lp Γ pc o (.tryUndo body handler k)).length ≤ B)
    (hinv : SInv p md Γ env m F D o ra) (hd : Disj p.w Γ) (hwf : wfS fns dc (Γ.map Prod.fst) (.tryUndo body handler k) = true)
    (hpk : pkS p.w o (.tryUndo body handler k) ≤ D) (ho : p.w ≤ o)
    (hex : exec (256 ^ p.w) (8 * p.w) fns p.w (f + 1) D o env (.tryUndo body handler k) = some (env', tr, res))
    (hck : FaultOK ck fns p.w res)
    (hs : Safe p B dA ra lp md sb dc fns Γ env' F D o (pc + (cS (cxOf p ck B dA) fa lp Γ pc o (.tryUndo body handler k)).length) m res
      (.tryUndo body handler k)) :
    Concl p B ra lp md Γ env' F D o pc (pc + (cS (cxOf p ck B dA) fa lp Γ pc o (.tryUndo body handler k)).length) m tr res := by
  rcases hs with ⟨_, _, h, _⟩ | ⟨hmd, hvd, h1, hst, h2⟩
  · simp [noTry] at h
  · obtain ⟨hiy, hdc0, hsf⟩ := hmd
    subst hdc0
    simp only [youLevel, Bool.and_eq_true] at h1
    obtain ⟨⟨hntb, hplh⟩, hyk⟩ := h1
    obtain ⟨w, rfl⟩ : ∃ w, md = .you w := by
      cases md with
      | you w => exact ⟨w, rfl⟩
      | plain => cases hiy
      | stop a v => cases hiy
    -- the body of the `try` is a defeat context: in programs with the word `defeat` it may call defeat
    -- functions, which go through that word; at this level it holds the address of a `halt`
    have hmdb : ∃ mdb : Md, mdb.kb F p.w = F ∧ mdb.isYou = false ∧ SInv p mdb Γ env m F D o ra ∧ HaltW p mdb ∧
        ((∃ v, mdb = .stop dA v) ∨ ∀ fd ∈ fns, fd.dfn = false) := by
      cases hsb : sb with
      | false => exact ⟨.plain, rfl, rfl, hinv.toMd rfl, HaltW.plain, Or.inr (hsf hsb)⟩
      | true =>
        obtain ⟨_, _, _, hw'⟩ := hst hsb
        cases hw'
        exact ⟨.stop dA (B + off_halt), rfl, rfl, hinv.reMd rfl, HaltW.halt lib, Or.inl ⟨_, rfl⟩⟩
    obtain ⟨mdb, hkbb, hiyb, hinvb, hWb, hdcb⟩ := hmdb
    have hdw : DReg p (.you w) m F := hinv.dreg
    simp only [wfS, Bool.and_eq_true] at hwf
    obtain ⟨⟨hwb, hwh⟩, hwk⟩ := hwf
    simp only [pkS, Nat.max_le] at hpk
    simp only [cS] at hpl hB h2 ⊢
    have hlenB : ∀ a, (cS (cxOf p ck B dA) fa lp Γ a o body).length = lenS ck lp.vd body := fun _ => cS_len _ _ _ _ _ _ _
    have hlenH : ∀ a, (cS (cxOf p ck B dA) fa lp Γ a o handler).length = lenS ck lp.vd handler := fun _ => cS_len _ _ _ _ _ _ _
    generalize hnB : lenS ck lp.vd body = nB at *
    generalize hnH : lenS ck lp.vd handler = nH at *
    obtain ⟨hpl1234, hplK⟩ := hpl.append
    obtain ⟨hpl123, hplH⟩ := hpl1234.append
    obtain ⟨hpl12, hplG⟩ := hpl123.append
    obtain ⟨hplJ, hplB⟩ := hpl12.append
    simp only [List.length_append, List.length_cons, List.length_nil, hlenB, hlenH, goto_len, ← Nat.add_assoc, Nat.zero_add]
      at hB hplK hplH hplG hplB h2 ⊢
    have hBH : pc + 1 + nB + 2 + nH ≤ B := Nat.le_of_add_right_le hB
    have hendM := Nat.lt_of_le_of_lt hBH (lib.lt 0 (Nat.zero_le _))
    have s0 := step_j (m := m) (placed_one hplJ) (ev_imm (pc + 1 + nB + 2))
    rw [show (pc + 1 + nB + 2) % p.M = pc + 1 + nB + 2 from Nat.mod_eq_of_lt (Nat.lt_of_le_of_lt (Nat.le_of_add_right_le hBH) (lib.lt 0 (Nat.zero_le _)))] at s0
    have contK : ∀ {env1 : Env} {m1 : Mem} {env3 : Env} {tr3 : List Ev} {res3 : Res},
        SInv p (Md.you w) Γ env1 m1 F D o ra → Keep p.w m m1 ((Md.you w).kb F p.w) →
        exec (256 ^ p.w) (8 * p.w) fns p.w f D o env1 k = some (env3, tr3, res3) → FaultOK ck fns p.w res3 → _ :=
      fun hi1 km1 hk hck3 => you_rest ih hra hlp hvd hsf hyk hst hplK rfl hB hd hwk hpk.2 ho hi1 km1 hk hck3
    have runBody : ∀ {env1' : Env} {tr1' : List Ev} {res1' : Res},
        exec (256 ^ p.w) (8 * p.w) fns p.w f D o env body = some (env1', tr1', res1') → FaultOK ck fns p.w res1' →
        Concl p B ra lp mdb Γ env1' F D o (pc + 1) (pc + 1 + nB) m tr1' res1' := by
      intro env1' tr1' res1' hb1 hfo
      have := ih F D ra hra lp hlp mdb sb true body Γ env (pc + 1) o m env1' tr1' res1' hplB (by rw [hlenB]; exact Nat.le_of_add_right_le (Nat.le_of_add_right_le hBH)) hinvb hd hwb hpk.1.1 ho hb1 hfo
        (Or.inl ⟨hiyb, ⟨(by intro h; rw [hvd] at h; cases h), fun _ => hdcb⟩, hntb, Or.inl hWb⟩)
      rwa [hlenB] at this
    rw [exec_tryUndo] at hex
    obtain ⟨⟨env1, tr1, res1⟩, hb1, hex⟩ := bind_some hex
    dsimp only at hex
    by_cases hdft : res1 = .defeat
    · -- the body would be defeated: the Turing jump goes to the handler, in the state before the try
      subst hdft
      rw [if_pos rfl] at hex
      have jt : Reach (sphinx p) ⟨pc, m⟩ [] ⟨pc + 1 + nB + 2, m⟩ :=
        Reach.jump_taken' (sys := sphinx p) s0 ((runBody hb1 trivial).1 rfl hvd)
      obtain ⟨⟨env2, tr2, res2⟩, hh2, hex⟩ := bind_some hex
      dsimp only at hex
      have runH : FaultOK ck fns p.w res2 → _ := fun hfo =>
        handler_ok (w := w) (sb := sb) (e := pc + 1 + nB + 2 + nH) ih hra hlp hvd hplh (hinv.toMd rfl) hdw hd hplH (by rw [hlenH]) hBH hwh hpk.1.2 ho hh2 hfo
      by_cases hn2 : res2 = .norm
      · subst hn2
        rw [if_pos rfl] at hex
        obtain ⟨⟨env3, tr3, res3⟩, hk, hex⟩ := bind_some hex
        cases hex
        obtain ⟨st2, r2, hp2⟩ := (runH trivial).2.2 (nd (by decide))
        obtain ⟨pc2, m2⟩ := st2
        obtain ⟨hpc2, hi2, km2⟩ := hp2
        dsimp only at hpc2 hi2 km2
        subst hpc2
        exact Concl.pre' (by simpa using jt.trans r2) km2 (contK hi2 km2 hk hck h2).2 (fun _ h => h)
      · rw [if_neg hn2] at hex
        cases hex
        simpa using Concl.pre jt (Keep.refl _ _ _) (runH hck).2 (fun _ h => h.of_ne_norm hn2)
    · rw [if_neg hdft] at hex
      by_cases hn : res1 = .norm
      · subst hn
        rw [if_pos rfl] at hex
        obtain ⟨⟨env3, tr3, res3⟩, hk, hex⟩ := bind_some hex
        cases hex
        obtain ⟨st1, r1, hp1⟩ := (runBody hb1 trivial).2 (nd (by decide))
        have hp1 := hp1.toYou hkbb hdw (by decide)
        obtain ⟨pc1, m1⟩ := st1
        obtain ⟨hpc1, hi1, km1⟩ := hp1
        dsimp only at hpc1 hi1 km1
        subst hpc1
        obtain ⟨hnd3, hkk⟩ := contK hi1 km1 hk hck h2
        obtain ⟨st', r3, hp3⟩ := hkk.2 (nd hnd3)
        have rbody : Reach (sphinx p) ⟨pc + 1, m⟩ (tr1 ++ tr3) st' := by
          simpa using r1.trans ((goto_reach (pc + 1 + nB) (pc + 1 + nB + 2 + nH) m1 hplG hendM).trans r3)
        exact ⟨fun hd' => absurd hd' hnd3, fun _ => ⟨st', Reach.jump_over (sys := sphinx p) s0 rbody (h2 st' (hp3.rebase km1)), hp3.rebase km1⟩⟩
      · rw [if_neg hn] at hex
        cases hex
        obtain ⟨st1, r1, hp1⟩ := (runBody hb1 hck).2 (nd hdft)
        have hp1' := ((hp1.toYou hkbb hdw hdft).of_ne_norm hn (e2 := pc + 1 + nB + 2 + nH + (cS (cxOf p ck B dA) fa lp Γ (pc + 1 + nB + 2 + nH) o k).length))
        exact ⟨fun hd' => absurd hd' hdft, fun _ => ⟨st1, Reach.jump_over (sys := sphinx p) s0 r1 (h2 st1 hp1'), hp1'⟩⟩

theorem cS_ok (lib : Placed p B) (fok : FnsOK p ck B dA fa fns) :
    ∀ (fuel : Nat) (F D ra : Nat) (hra : ra < 256 ^ p.w) (lp : Jt) (hlp : lp.cont < 256 ^ p.w ∧ lp.brk < 256 ^ p.w) (md : Md) (sb dc : Bool)
      (s : S) (Γ : Gam) (env : Env) (pc o : Nat) (m : Mem) (env' : Env) (tr : List Ev) (res : Res),
      PlacedAt p pc (cS (cxOf p ck B dA) fa lp Γ pc o s) →
      pc + (cS (cxOf p ck B dA) fa lp Γ pc o s).length ≤ B →
      SInv p md Γ env m F D o ra → Disj p.w Γ → wfS fns dc (Γ.map Prod.fst) s = true →
      pkS p.w o s ≤ D → p.w ≤ o →
      exec (256 ^ p.w) (8 * p.w) fns p.w fuel D o env s = some (env', tr, res) → FaultOK ck fns p.w res →
      Safe p B dA ra lp md sb dc fns Γ env' F D o (pc + (cS (cxOf p ck B dA) fa lp Γ pc o s).length) m res s →
      Concl p B ra lp md Γ env' F D o pc (pc + (cS (cxOf p ck B dA) fa lp Γ pc o s).length) m tr res := by
  have hw := lib.hw
  intro fuel
  induction fuel with
  | zero => intro F D ra hra lp hlp md sb dc s Γ env pc o m env' tr res _ _ _ _ _ _ _ hex; rw [exec_zero] at hex; cases hex
  | succ f ih =>
    intro F D ra hra lp hlp md sb dc s Γ env pc o m env' tr res hpl hB hinv hd hwf hpk ho hex hck hs
    have hoD : o ≤ D := Nat.le_trans (pkS_ge p.w s o) hpk
    cases s with
    | nil =>
      cases hex
      exact ⟨fun h => absurd h (by decide), fun _ => ⟨⟨pc, m⟩, by simpa using Reach.refl, by simp [Post, cS]; exact ⟨hinv, Keep.refl _ _ _⟩⟩⟩
    | ret =>
      cases hex
      simp only [cS] at hpl
      obtain ⟨c0, hpl1⟩ := placed_cons hpl
      obtain ⟨c1, hpl2⟩ := placed_cons hpl1
      have s0 := step_ldSlot ck B (3 * p.w) p.w hw hinv.fr c0 (Nat.le_refl _) (Nat.le_trans ho hoD) (r1_ok p.w).2
      rw [hinv.ra] at s0
      refine ⟨fun h => absurd h (by decide), fun _ => ⟨⟨ra, m.writeLE (3 * p.w) p.w ra⟩, ?_, rfl,
        (Keep.write _ _ _ _ _ F (r1_ok p.w).1 (hinv.fr.room ▸ Nat.le_trans (r1_ok p.w).2 (Nat.le_add_right _ _))).kb⟩⟩
      simpa [evl] using (Reach.of_next (sys := sphinx p) s0).trans (jump_halt c1 (placed_one hpl2) (hinv.fr.ev_wr hw (r1_ok p.w) hra))
    | decl x e k =>
      simp only [wfS, Bool.and_eq_true, Bool.not_eq_true'] at hwf
      obtain ⟨⟨hbe, hxn⟩, hwk⟩ := hwf
      simp only [pkS, Nat.max_le] at hpk
      simp only [cS] at hpl hB hs ⊢
      obtain ⟨hpl1, hpl2⟩ := hpl.append
      rw [List.length_append] at hB hs ⊢
      have hp := pushE_ok (ck := ck) (dA := dA) lib Γ env F D e pc o m hpl1 (Nat.le_trans (Nat.add_le_add_left (Nat.le_add_right _ _) _) hB)
        hinv.fr hinv.vars hbe hpk.1 ho
      rw [exec_decl] at hex
      cases hev : evalE (256 ^ p.w) (8 * p.w) env e with
      | none =>
        rw [hev] at hex; cases hex
        obtain ⟨m', r⟩ := hp.2 hev hck
        exact Concl.div0 r
      | some v =>
        rw [hev] at hex
        obtain ⟨m1, r1, k1, hval⟩ := hp.1 v hev
        obtain ⟨hinv1, hd1⟩ := decl_inv hinv hd x v k1 hval hxn ho
        exact StmtOK.step ih hra hlp r1 (k1.mono (Nat.sub_le _ _)) hpl2 (Nat.add_assoc _ _ _) hB hinv1 hd1 (by simpa using hwk) hpk.2
          (Nat.le_add_right_of_le ho) hex hck hs id id (fun _ h => h.decl_back hinv x hxn rfl)
    | assign x e k =>
      have hM := pow_ge2 p.w hw
      simp only [wfS, Bool.and_eq_true] at hwf
      obtain ⟨⟨hxin, hbe⟩, hwk⟩ := hwf
      simp only [pkS, Nat.max_le] at hpk
      have hg := gV_ok (ck := ck) (dA := dA) lib Γ env F D e pc o (3 * p.w) m
      rcases hgv : gV (cxOf p ck B dA) Γ pc o (cxOf p ck B dA).r1 e with ⟨c, v'⟩
      rw [show (cxOf p ck B dA).r1 = 3 * p.w from rfl] at hgv
      rw [hgv] at hg
      simp only at hg
      have hcode : cS (cxOf p ck B dA) fa lp Γ pc o (.assign x e k)
          = (c ++ [stSlot (cxOf p ck B dA) (look Γ x) (v'.arg (cxOf p ck B dA))]) ++
              cS (cxOf p ck B dA) fa lp Γ (pc + (c ++ [stSlot (cxOf p ck B dA) (look Γ x) (v'.arg (cxOf p ck B dA))]).length) o k := by
        simp only [cS]; rw [show (cxOf p ck B dA).r1 = 3 * p.w from rfl, hgv]
      rw [hcode] at hpl hB hs ⊢
      obtain ⟨hpl12, hpl3⟩ := hpl.append
      obtain ⟨hpl1, hpl2⟩ := hpl12.append
      simp only [List.length_append, List.length_cons, List.length_nil, Nat.zero_add] at hB hpl3 hs ⊢
      have hg' := hg hpl1 (le_of_pre (le_of_pre hB)) (Or.inr trivial) hinv.fr hinv.vars hbe hpk.1 ho
      rw [exec_assign] at hex
      cases hev : evalE (256 ^ p.w) (8 * p.w) env e with
      | none =>
        rw [hev] at hex; cases hex
        obtain ⟨m', r⟩ := hg'.2 hev hck
        exact Concl.div0 r
      | some v =>
        rw [hev] at hex
        obtain ⟨m1, r1, k1, harg, hval⟩ := hg'.1 v hev
        have ev := ev_arg_any (ck := ck) (dA := dA) (B := B) hw (hinv.keep k1 ho).fr (pc + c.length) v' harg
        rw [hval] at ev
        have hvM : v < 256 ^ p.w := hval ▸ valOf_lt _ _ _ _
        obtain ⟨st, k12, hinv2⟩ := stVar_ok hw (hinv.keep k1 ho) hd hxin hoD hpl2 ev hvM
        have r01 : Reach (sphinx p) ⟨pc, m⟩ [] ⟨pc + (c.length + 1), m1.writeLE (F - look Γ x) p.w v⟩ := by
          simpa [Nat.add_assoc] using r1.trans st
        exact StmtOK.step ih hra hlp r01 ((k1.mono (Nat.sub_le _ _)).trans' k12) hpl3 (Nat.add_assoc _ _ _) hB hinv2 hd hwk hpk.2 ho hex hck hs
          id id (fun _ h => h)
    | write e k =>
      simp only [wfS, Bool.and_eq_true] at hwf
      obtain ⟨hbe, hwk⟩ := hwf
      simp only [pkS, Nat.max_le] at hpk
      simp only [cS] at hpl hB hs ⊢
      obtain ⟨hpl1, hpl2⟩ := hpl.append
      rw [List.length_append] at hB hs ⊢
      have hwr := cWrite_ok (ck := ck) (dA := dA) lib Γ env F D e pc o m hpl1 (Nat.le_trans (Nat.add_le_add_left (Nat.le_add_right _ _) _) hB)
        hinv.fr hinv.vars hbe hpk.1 ho
      rw [exec_write] at hex
      cases hev : evalE (256 ^ p.w) (8 * p.w) env e with
      | none =>
        rw [hev] at hex; cases hex
        obtain ⟨m', r⟩ := hwr.2 hev hck
        exact Concl.div0 r
      | some v =>
        rw [hev] at hex
        obtain ⟨⟨envk, trk, resk⟩, hk, hex⟩ := bind_some hex
        cases hex
        obtain ⟨m1, r1, k1⟩ := hwr.1 v hev
        exact StmtOK.step ih hra hlp r1 (k1.mono (Nat.sub_le _ _)) hpl2 (Nat.add_assoc _ _ _) hB (hinv.keep k1 ho) hd hwk hpk.2 ho hk hck hs
          id id (fun _ h => h)
    | writeln e k =>
      have hM := pow_ge2 p.w hw
      cases e with
      | none =>
        simp only [wfS] at hwf
        simp only [pkS] at hpk
        simp only [cS] at hpl hB hs ⊢
        have hpl2 : PlacedAt p (pc + 1) (cS (cxOf p ck B dA) fa lp Γ (pc + 1) o k) := by
          have := (hpl.append (l₁ := [Instr.yld (.imm 10)])).2; simpa using this
        simp only [List.length_cons] at hB hs ⊢
        rw [exec_writeln_none] at hex
        obtain ⟨⟨envk, trk, resk⟩, hk, hex⟩ := bind_some hex
        cases hex
        have c0 := hpl 0 (by simp)
        simp only [List.getElem_cons_zero, Nat.add_zero] at c0
        have y := yld_reach (p := p) pc 10 m c0
        rw [show 10 % p.M % 256 = 10 from by unfold Prog.M; rw [Nat.mod_eq_of_lt (Nat.lt_of_lt_of_le (by decide : 10 < 65536) (pow_ge2 p.w hw))]] at y
        exact StmtOK.step ih hra hlp y (Keep.refl _ _ _) hpl2 ((Nat.add_assoc pc 1 _).trans (congrArg (pc + ·) (Nat.add_comm 1 _))) hB hinv hd hwf hpk ho hk hck hs id id (fun _ h => h)
      | some e =>
        simp only [wfS, Bool.and_eq_true] at hwf
        obtain ⟨hbe, hwk⟩ := hwf
        simp only [pkS, Nat.max_le] at hpk
        simp only [cS] at hpl hB hs ⊢
        obtain ⟨hpl12, hpl3⟩ := hpl.append
        obtain ⟨hpl1, hpl2⟩ := hpl12.append
        simp only [List.length_append, List.length_cons, List.length_nil, Nat.zero_add] at hB hpl3 hs ⊢
        have hwr := cWrite_ok (ck := ck) (dA := dA) lib Γ env F D e pc o m hpl1 (le_of_pre (le_of_pre hB)) hinv.fr hinv.vars hbe hpk.1 ho
        rw [exec_writeln_some] at hex
        cases hev : evalE (256 ^ p.w) (8 * p.w) env e with
        | none =>
          rw [hev] at hex; cases hex
          obtain ⟨m', r⟩ := hwr.2 hev hck
          exact Concl.div0 r
        | some v =>
          rw [hev] at hex
          obtain ⟨⟨envk, trk, resk⟩, hk, hex⟩ := bind_some hex
          cases hex
          obtain ⟨m1, r1, k1⟩ := hwr.1 v hev
          have y := yld_reach (p := p) (pc + (cWrite (cxOf p ck B dA) Γ pc o e).length) 10 m1 (placed_one hpl2)
          rw [show 10 % p.M % 256 = 10 from by unfold Prog.M; rw [Nat.mod_eq_of_lt (Nat.lt_of_lt_of_le (by decide : 10 < 65536) (pow_ge2 p.w hw))]] at y
          have r01 : Reach (sphinx p) ⟨pc, m⟩ (outs (decimalW (256 ^ p.w) v) ++ [Ev.out 10])
              ⟨pc + ((cWrite (cxOf p ck B dA) Γ pc o e).length + 1), m1⟩ := by
            simpa [Nat.add_assoc] using r1.trans y
          exact StmtOK.step ih hra hlp r01 (k1.mono (Nat.sub_le _ _)) hpl3 (Nat.add_assoc _ _ _) hB (hinv.keep k1 ho) hd hwk hpk.2 ho hk hck hs
            id id (fun _ h => h)
    | putc c k =>
      have hM := pow_ge2 p.w hw
      simp only [wfS] at hwf
      simp only [pkS] at hpk
      simp only [cS] at hpl hB hs ⊢
      have hpl2 : PlacedAt p (pc + 1) (cS (cxOf p ck B dA) fa lp Γ (pc + 1) o k) := by
        have := (hpl.append (l₁ := [Instr.yld (.imm (c % (cxOf p ck B dA).M))])).2; simpa using this
      simp only [List.length_cons] at hB hs ⊢
      rw [exec_putc] at hex
      obtain ⟨⟨envk, trk, resk⟩, hk, hex⟩ := bind_some hex
      cases hex
      have c0 := hpl 0 (by simp)
      simp only [List.getElem_cons_zero, Nat.add_zero] at c0
      have y := yld_reach (p := p) pc _ m c0
      rw [show c % (cxOf p ck B dA).M % p.M % 256 = c % 256 ^ p.w % 256 from by
        unfold Prog.M; show c % 256 ^ p.w % 256 ^ p.w % 256 = _; rw [Nat.mod_mod]] at y
      exact StmtOK.step ih hra hlp y (Keep.refl _ _ _) hpl2 ((Nat.add_assoc pc 1 _).trans (congrArg (pc + ·) (Nat.add_comm 1 _))) hB hinv hd hwf hpk ho hk hck hs id id (fun _ h => h)
    | block b k =>
      simp only [wfS, Bool.and_eq_true] at hwf
      simp only [pkS, Nat.max_le] at hpk
      simp only [cS] at hpl hB hs ⊢
      obtain ⟨hpl1, hpl2⟩ := hpl.append
      rw [List.length_append] at hB hs ⊢
      exact seq_ok ih hra hlp Reach.refl (Keep.refl _ _ _) hinv hd ho rfl hpl1 (Nat.le_trans (Nat.add_le_add_left (Nat.le_add_right _ _) _) hB)
        (fun _ => Reach.refl) hpl2 (Nat.add_assoc _ _ _) hB hwf.1 hwf.2 hpk.1 hpk.2
        (by simp only [noTry, Bool.and_eq_true]; exact fun h => h.1) (by simp only [noTry, Bool.and_eq_true]; exact fun h => h.2)
        (by simp only [youLevel, Bool.and_eq_true]; exact fun h => h.1) (by simp only [youLevel, Bool.and_eq_true]; exact fun h => h.2) hex hck hs
    | defeat k =>
      cases hex
      cases hv : lp.vd with
      | false =>
        simp only [cS, hv] at hpl
        have c0 := hpl 0 (by simp)
        simp only [Bool.false_eq_true, if_false, List.getElem_cons_zero, Nat.add_zero] at c0
        exact ⟨fun _ _ => Halts.halt (sys := sphinx p) (step_halt (m := m) c0), fun h => absurd (hv.symm.trans (h rfl)) (by decide)⟩
      | true =>
        -- inside a `try/stop` body: `j [defeat]; halt` goes to the handler
        rcases hs with ⟨_, hvd, _⟩ | ⟨_, hvd, _⟩
        · obtain ⟨v, rfl⟩ := hvd.1 hv
          obtain ⟨h1, h2, h3, h4, h6⟩ := hinv.dreg dA v rfl
          simp only [cS, hv] at hpl
          have c0 := hpl 0 (by simp); have c1 := hpl 1 (by simp)
          simp only [if_true, List.cons_append, List.nil_append, List.getElem_cons_succ, List.getElem_cons_zero, Nat.add_zero] at c0 c1
          have s0 := step_j (m := m) c0 (ev_st (by unfold Prog.M; omega) (by omega))
          rw [h4] at s0
          have s1 := step_halt (m := m) c1
          exact ⟨fun _ hf => absurd (hv.symm.trans hf) (by decide), fun _ => ⟨⟨v, m⟩, Reach.jump_taken (sys := sphinx p) s0 s1,
            ⟨dA, v, rfl, rfl, hinv.toD, (Keep.refl _ _ _).toD⟩⟩⟩
        · rw [hvd] at hv; cases hv
    | defeatIf c k =>
      simp only [wfS, Bool.and_eq_true] at hwf
      obtain ⟨⟨hbc, hdc⟩, hwk⟩ := hwf
      simp only [pkS, Nat.max_le] at hpk
      simp only [cS] at hpl hB hs ⊢
      obtain ⟨hpl1, hpl2⟩ := hpl.append
      rw [List.length_append] at hB hs ⊢
      have hB1 := Nat.le_trans (Nat.add_le_add_left (Nat.le_add_right _ _) _) hB
      cases hv : lp.vd with
      | false =>
        rw [hv] at hpl1 hpl2 hB hB1 hs
        have hcd := cD_ok (ck := ck) (dA := dA) lib Γ env F D c pc o m hdc hpl1 hB1 hinv.fr hinv.vars hbc hpk.1 ho
        cases hev : evalB (256 ^ p.w) (8 * p.w) env c with
        | none =>
          rw [exec_defeatIf, hev] at hex; cases hex
          obtain ⟨m', r⟩ := hcd.2.2 hev hck
          exact Concl.div0 r
        | some cv =>
          cases cv with
          | true =>
            rw [exec_defeatIf, hev] at hex; cases hex
            exact ⟨fun _ _ => hcd.2.1 hev, fun h => absurd (hv.symm.trans (h rfl)) (by decide)⟩
          | false =>
            rw [exec_defeatIf, hev] at hex
            obtain ⟨m1, r1, k1⟩ := hcd.1 hev
            exact StmtOK.step ih hra hlp r1 (k1.mono (Nat.sub_le _ _)) hpl2 (Nat.add_assoc _ _ _) hB (hinv.keep k1 ho) hd hwk hpk.2 ho hex hck hs
              id (by simp [youLevel]) (fun _ h => h)
      | true =>
        -- inside a `try/stop` body: each conditional halt is preceded by `j [defeat]`
        rw [hv] at hpl1 hpl2 hB hB1 hs
        rcases hs with ⟨hmd, hvd, hnt, hwld⟩ | ⟨_, hvd, _⟩
        · obtain ⟨v, rfl⟩ := hvd.1 hv
          have hdw : DWord p dA v m F := hinv.dreg.dword
          have hpost : ∀ m', Keep p.w m m' (F - o) → Post p B ra lp (.stop dA v) Γ env F D o
              (pc + ((cD (cxOf p ck B dA) true Γ pc o c).length + (cS (cxOf p ck B dA) fa lp Γ (pc + (cD (cxOf p ck B dA) true Γ pc o c).length) o k).length))
              m .defeat ⟨v, m'⟩ :=
            fun m' k' => ⟨dA, v, rfl, rfl, (hinv.keep k' ho).toD, (k'.mono (Nat.sub_le _ _)).kb.toD⟩
          cases hev : evalB (256 ^ p.w) (8 * p.w) env c with
          | none =>
            rw [exec_defeatIf, hev] at hex; cases hex
            have hcd := cD_ok_vd (ck := ck) (dA := dA) lib Γ env F D v c pc o m hdc hpl1 hB1 hinv.fr hinv.vars hbc hpk.1 ho hdw
              (Or.inr (fun m' _ => ⟨fun h => (by rw [hev] at h; cases h), fun h => (by rw [hev] at h; cases h)⟩))
            obtain ⟨m', r⟩ := hcd.2.2 hev hck
            exact Concl.div0 r
          | some cv =>
            cases cv with
            | true =>
              rw [exec_defeatIf, hev] at hex; cases hex
              have hcd := cD_ok_vd (ck := ck) (dA := dA) lib Γ env F D v c pc o m hdc hpl1 hB1 hinv.fr hinv.vars hbc hpk.1 ho hdw
                (hwld.imp (fun h => h dA v rfl) (fun hf m' k' => ⟨fun h => (by rw [hev] at h; cases h), fun _ => hf.2 _ (hpost m' k')⟩))
              obtain ⟨m', r, k'⟩ := hcd.2.1 hev
              exact ⟨fun _ hf => absurd (hv.symm.trans hf) (by decide), fun _ => ⟨⟨v, m'⟩, r, hpost m' k'⟩⟩
            | false =>
              rw [exec_defeatIf, hev] at hex
              have hkk : ∀ m1, Keep p.w m m1 (F - o) → _ := fun m1 k1 =>
                StmtOK.step ih hra hlp Reach.refl (Keep.refl _ _ _) hpl2 (Nat.add_assoc _ _ _) hB (hinv.keep k1 ho) hd hwk hpk.2 ho hex hck
                  (Safe.sub (s := .defeatIf c k) (st := sb) (Or.inl ⟨hmd, hvd, hnt, hwld⟩) id id (k1.mono (Nat.sub_le _ _)) (fun _ h => h)) id (by simp [youLevel]) (fun _ h => h)
              have hcd := cD_ok_vd (ck := ck) (dA := dA) lib Γ env F D v c pc o m hdc hpl1 hB1 hinv.fr hinv.vars hbc hpk.1 ho hdw
                (hwld.imp (fun h => h dA v rfl) (fun hf m' k' => ⟨fun _ => (by
                  obtain ⟨st', r2, hp2⟩ := (hkk m' k').2 (fun _ => hv)
                  exact (r2.exec (hf.2 st' (hp2.rebase (k'.mono (Nat.sub_le _ _)).kb))).2),
                  fun h => (by rw [hev] at h; cases h)⟩))
              obtain ⟨m1, r1, k1⟩ := hcd.1 hev
              exact Concl.pre r1 (k1.mono (Nat.sub_le _ _)) (hkk m1 k1) (fun _ h => h)
        · rw [hvd] at hv; cases hv
    | ifb c t e k =>
      simp only [wfS, Bool.and_eq_true] at hwf
      obtain ⟨⟨⟨hbc, hwt⟩, hwe⟩, hwk⟩ := hwf
      simp only [pkS, Nat.max_le] at hpk
      simp only [cS] at hpl hB hs ⊢
      have hlenA : ∀ a, (cB (cxOf p ck B dA) Γ pc o c [] (goto a)).length = lenB ck c 0 2 false true := fun _ => by rw [cB_len]; simp
      generalize hnC : lenB ck c 0 2 false true = nC at *
      have hlenT : ∀ a, (cS (cxOf p ck B dA) fa lp Γ a o t).length = lenS ck lp.vd t := fun _ => cS_len _ _ _ _ _ _ _
      have hlenE : ∀ a, (cS (cxOf p ck B dA) fa lp Γ a o e).length = lenS ck lp.vd e := fun _ => cS_len _ _ _ _ _ _ _
      generalize hnT : lenS ck lp.vd t = nT at *
      generalize hnE : lenS ck lp.vd e = nE at *
      obtain ⟨hpl1234, hplK⟩ := hpl.append
      obtain ⟨hpl123, hplE⟩ := hpl1234.append
      obtain ⟨hpl12, hplG⟩ := hpl123.append
      obtain ⟨hplA, hplT⟩ := hpl12.append
      simp only [List.length_append, hlenA, hlenT, hlenE, goto_len, ← Nat.add_assoc] at hB hplK hplE hplG hplT hs ⊢
      have hBE : pc + nC + nT + 2 + nE ≤ B := Nat.le_of_add_right_le hB
      have hendM := Nat.lt_of_le_of_lt hBE (lib.lt 0 (Nat.zero_le _))
      have hc := cond_ok lib hnC hplA (Nat.le_of_add_right_le (Nat.le_of_add_right_le (Nat.le_of_add_right_le (Nat.le_of_add_right_le hB)))) (Nat.lt_of_le_of_lt (Nat.le_of_add_right_le hBE) (lib.lt 0 (Nat.zero_le _))) hinv.fr hinv.vars hbc hpk.1.1 ho
      cases hev : evalB (256 ^ p.w) (8 * p.w) env c with
      | none =>
        rw [exec_ifb, hev] at hex; cases hex
        obtain ⟨m', r⟩ := hc.2 hev hck
        exact Concl.div0 r
      | some cv =>
        obtain ⟨m0, r0, k0⟩ := hc.1 cv hev
        have hinv0 := hinv.keep k0 ho
        have km0 : Keep p.w m m0 F := k0.mono (Nat.sub_le _ _)
        have hex' : exec (256 ^ p.w) (8 * p.w) fns p.w (f + 1) D o env (.block (if cv = true then t else e) k) = some (env', tr, res) := by
          rw [exec_ifb, hev] at hex; rw [exec_block]; exact hex
        cases cv with
        | true =>
          rw [if_pos rfl] at r0
          exact seq_ok ih hra hlp r0 km0 hinv0 hd ho (hlenT _) hplT (Nat.le_of_add_right_le (Nat.le_of_add_right_le hBE))
            (fun m1 => goto_reach (pc + nC + nT) (pc + nC + nT + 2 + nE) m1 hplG hendM) hplK rfl hB hwt hwk hpk.1.2 hpk.2.2
            (by simp only [noTry, Bool.and_eq_true]; exact fun h => h.1.1) (by simp only [noTry, Bool.and_eq_true]; exact fun h => h.2)
            (by simp only [youLevel, Bool.and_eq_true]; exact fun h => h.1.1) (by simp only [youLevel, Bool.and_eq_true]; exact fun h => h.2) hex' hck hs
        | false =>
          rw [if_neg Bool.false_ne_true] at r0
          exact seq_ok ih hra hlp r0 km0 hinv0 hd ho (hlenE _) hplE hBE
            (fun m1 => by simpa using (Reach.refl (sys := sphinx p) (s := ⟨pc + nC + nT + 2 + nE, m1⟩))) hplK rfl hB hwe hwk hpk.2.1 hpk.2.2
            (by simp only [noTry, Bool.and_eq_true]; exact fun h => h.1.2) (by simp only [noTry, Bool.and_eq_true]; exact fun h => h.2)
            (by simp only [youLevel, Bool.and_eq_true]; exact fun h => h.1.2) (by simp only [youLevel, Bool.and_eq_true]; exact fun h => h.2) hex' hck hs
    | loop c body cont k =>
      exact loop_ok lib f ih F D ra hra lp hlp md sb dc c body cont k Γ env pc o m env' tr res hpl hB hinv hd hwf hpk ho hex hck hs
    | tryUndo body handler k =>
      exact tryUndo_ok lib f ih F D ra hra lp hlp md sb dc body handler k Γ env pc o m env' tr res hpl hB hinv hd hwf hpk ho hex hck hs
    | retE e =>
      simp only [wfS] at hwf
      simp only [pkS] at hpk
      have hg := gV_ok (ck := ck) (dA := dA) lib Γ env F D e pc o (2 * p.w) m
      have hreg := gV_reg (p := p) (ck := ck) (dA := dA) (B := B) Γ env m F D e pc o (2 * p.w) hinv.vars hwf hpk ho
      rcases hgv : gV (cxOf p ck B dA) Γ pc o (cxOf p ck B dA).r0 e with ⟨c, v'⟩
      rw [show (cxOf p ck B dA).r0 = 2 * p.w from rfl] at hgv
      rw [hgv] at hg hreg
      simp only at hg hreg
      have hcode : cS (cxOf p ck B dA) fa lp Γ pc o (.retE e)
          = c ++ [ldSlot (cxOf p ck B dA) (3 * p.w) p.w, stSlot (cxOf p ck B dA) p.w (v'.arg (cxOf p ck B dA)),
              .j (.st (3 * p.w)), .halt] := by
        simp only [cS]; rw [show (cxOf p ck B dA).r0 = 2 * p.w from rfl, hgv]; rfl
      rw [hcode] at hpl hB hs ⊢
      obtain ⟨hpl1, hpl2⟩ := hpl.append
      simp only [List.length_append, List.length_cons, List.length_nil, Nat.zero_add] at hB hs ⊢
      have hg' := hg hpl1 (le_of_pre hB) (Or.inl trivial) hinv.fr hinv.vars hwf hpk ho
      cases hev : evalE (256 ^ p.w) (8 * p.w) env e with
      | none =>
        rw [exec_retE, hev] at hex; cases hex
        obtain ⟨m', r⟩ := hg'.2 hev hck
        exact Concl.div0 r
      | some v =>
        rw [exec_retE, hev] at hex; cases hex
        obtain ⟨m1, r1, k1, harg, hval⟩ := hg'.1 v hev
        have hinv1 := hinv.keep k1 ho
        obtain ⟨m3, r13, k13, hv3⟩ := retv_ok hw hinv1.fr hinv1.ra hra (Nat.le_trans ho hoD) harg hval hreg hpl2
        exact ⟨fun h => absurd h (by simp), fun _ => ⟨⟨ra, m3⟩, by simpa using r1.trans r13,
          rfl, ((k1.mono (Nat.sub_le _ _)).trans' k13).kb, hv3⟩⟩
    | callS g args k =>
      simp only [wfS, Bool.and_eq_true] at hwf
      obtain ⟨⟨hba, hwk⟩, hdv⟩ := hwf
      simp only [pkS, Nat.max_le] at hpk
      simp only [cS] at hpl hB hs ⊢
      obtain ⟨hpl1, hpl2⟩ := hpl.append
      rw [List.length_append] at hB hs ⊢
      have hB1 := Nat.le_trans (Nat.add_le_add_left (Nat.le_add_right _ _) _) hB
      rw [exec_callS] at hex
      cases hcw : callWith (256 ^ p.w) (8 * p.w) fns p.w (exec (256 ^ p.w) (8 * p.w) fns p.w f) D o env g args with
      | none => rw [hcw] at hex; cases hex
      | some rc =>
        obtain ⟨trc, flag, rv⟩ := rc
        rw [hcw] at hex
        cases flag with
        | some rf => cases hex; exact call_stmt_fault lib fok f ih hra hinv ho hpl1 hB1 hba hpk.1 hdv hcw hck hs
        | none =>
          obtain ⟨⟨envk, trk, resk⟩, hk, hex⟩ := bind_some hex
          cases hex
          refine call_stmt_ok lib fok f ih hra hinv ho hpl1 hB1 hba hpk.1 hdv hcw hs (fun m1 k1 _ => ?_)
          exact StmtOK.step ih hra hlp Reach.refl (Keep.refl _ _ _) hpl2 (Nat.add_assoc _ _ _) hB (hinv.keep k1 ho) hd hwk hpk.2 ho hk hck
            (hs.sub id id (k1.mono (Nat.sub_le _ _)) (fun _ h => h)) id
            (by simp only [youLevel, Bool.and_eq_true]; exact fun h => h.2) (fun _ h => h)
    | declCall x g args k =>
      simp only [wfS, Bool.and_eq_true, Bool.not_eq_true'] at hwf
      obtain ⟨⟨⟨hba, hxn⟩, hwk⟩, hdv⟩ := hwf
      simp only [pkS, Nat.max_le] at hpk
      simp only [cS] at hpl hB hs ⊢
      obtain ⟨hpl1, hpl2⟩ := hpl.append
      rw [List.length_append] at hB hs ⊢
      have hB1 := Nat.le_trans (Nat.add_le_add_left (Nat.le_add_right _ _) _) hB
      rw [exec_declCall] at hex
      cases hcw : callWith (256 ^ p.w) (8 * p.w) fns p.w (exec (256 ^ p.w) (8 * p.w) fns p.w f) D o env g args with
      | none => rw [hcw] at hex; cases hex
      | some rc =>
        obtain ⟨trc, flag, rv⟩ := rc
        rw [hcw] at hex
        cases flag with
        | some rf => cases hex; exact call_stmt_fault lib fok f ih hra hinv ho hpl1 hB1 hba hpk.1 hdv hcw hck hs
        | none =>
          cases rv with
          | none => cases hex
          | some v =>
            obtain ⟨⟨envk, trk, resk⟩, hk, hex⟩ := bind_some hex
            cases hex
            refine call_stmt_ok lib fok f ih hra hinv ho hpl1 hB1 hba hpk.1 hdv hcw hs (fun m1 k1 hv1 => ?_)
            obtain ⟨hinv1, hd1⟩ := decl_inv hinv hd x v k1 (hv1 v rfl) hxn ho
            exact StmtOK.step ih hra hlp Reach.refl (Keep.refl _ _ _) hpl2 (Nat.add_assoc _ _ _) hB
              (hinv1.keep (Keep.refl _ _ _) (Nat.le_add_right_of_le ho)) hd1 (by simpa using hwk) hpk.2 (Nat.le_add_right_of_le ho) hk hck
              (hs.sub id id (k1.mono (Nat.sub_le _ _)) (fun _ h => h)) id
              (by simp only [youLevel, Bool.and_eq_true]; exact fun h => h.2) (fun _ h => h.decl_back (hinv.keep k1 ho) x hxn rfl)
    | assignCall x g args k =>
      simp only [wfS, Bool.and_eq_true] at hwf
      obtain ⟨⟨⟨hxin, hba⟩, hwk⟩, hdv⟩ := hwf
      simp only [pkS, Nat.max_le] at hpk
      have hcode : cS (cxOf p ck B dA) fa lp Γ pc o (.assignCall x g args k)
          = ((cCall (cxOf p ck B dA) fa Γ pc o g args ++
              [ldSlot (cxOf p ck B dA) (3 * p.w) (o + p.w), stSlot (cxOf p ck B dA) (look Γ x) (.st (3 * p.w))])) ++
            cS (cxOf p ck B dA) fa lp Γ (pc + (cCall (cxOf p ck B dA) fa Γ pc o g args ++
              [ldSlot (cxOf p ck B dA) (3 * p.w) (o + p.w), stSlot (cxOf p ck B dA) (look Γ x) (.st (3 * p.w))]).length) o k := by
        simp only [cS]; rfl
      rw [hcode] at hpl hB hs ⊢
      obtain ⟨hpl12, hpl3⟩ := hpl.append
      obtain ⟨hpl1, hpl2⟩ := hpl12.append
      simp only [List.length_append, List.length_cons, List.length_nil, Nat.zero_add] at hB hpl3 hs ⊢
      have hB1 : pc + (cCall (cxOf p ck B dA) fa Γ pc o g args).length ≤ B := le_of_pre (le_of_pre hB)
      rw [exec_assignCall] at hex
      cases hcw : callWith (256 ^ p.w) (8 * p.w) fns p.w (exec (256 ^ p.w) (8 * p.w) fns p.w f) D o env g args with
      | none => rw [hcw] at hex; cases hex
      | some rc =>
        obtain ⟨trc, flag, rv⟩ := rc
        rw [hcw] at hex
        cases flag with
        | some rf => cases hex; exact call_stmt_fault lib fok f ih hra hinv ho hpl1 hB1 hba hpk.1 hdv hcw hck hs
        | none =>
          cases rv with
          | none => cases hex
          | some v =>
            obtain ⟨⟨envk, trk, resk⟩, hk, hex⟩ := bind_some hex
            cases hex
            have hoW : o + p.w ≤ D := Nat.le_trans (Nat.le_max_left _ _) hpk.1
            refine call_stmt_ok lib fok f ih hra hinv ho hpl1 hB1 hba hpk.1 hdv hcw hs (fun m1 k1 hv1 => ?_)
            have hv := hv1 v rfl
            have hinv1 := hinv.keep k1 ho
            obtain ⟨c0, hplS⟩ := placed_cons hpl2
            have hvM : v < 256 ^ p.w := by rw [← hv]; exact Mem.readLE_lt _ _ _
            have s0 := step_ldSlot ck B (3 * p.w) (o + p.w) hw hinv1.fr c0 (Nat.le_add_left _ _) hoW (r1_ok p.w).2
            rw [hv] at s0
            have k12 : Keep p.w m1 (m1.writeLE (3 * p.w) p.w v) (F - o) :=
              Keep.write _ _ _ _ _ _ (r1_ok p.w).1 (by have := hinv.fr.room; omega)
            obtain ⟨st, k23, hinv3⟩ := stVar_ok hw (hinv1.keep k12 ho) hd hxin hoD hplS (hinv1.fr.ev_wr hw (r1_ok p.w) hvM) hvM
            have r13 : Reach (sphinx p) ⟨pc + (cCall (cxOf p ck B dA) fa Γ pc o g args).length, m1⟩ []
                ⟨pc + ((cCall (cxOf p ck B dA) fa Γ pc o g args).length + (1 + 1)), (m1.writeLE (3 * p.w) p.w v).writeLE (F - look Γ x) p.w v⟩ := by
              simpa [evl, Nat.add_assoc] using (Reach.of_next (sys := sphinx p) s0).trans st
            exact StmtOK.step ih hra hlp r13 ((k12.mono (Nat.sub_le _ _)).trans' k23) hpl3 (Nat.add_assoc _ _ _) hB hinv3 hd hwk hpk.2 ho hk hck
              (hs.sub id id (k1.mono (Nat.sub_le _ _)) (fun _ h => h)) id
              (by simp only [youLevel, Bool.and_eq_true]; exact fun h => h.2) (fun _ h => h)
    | brk =>
      cases hex
      simp only [cS] at hpl hB ⊢
      have g := goto_reach pc lp.brk m hpl hlp.2
      exact ⟨fun h => absurd h (by decide), fun _ => ⟨⟨lp.brk, m⟩, g, by simp only [Post]; exact ⟨trivial, hinv, Keep.refl _ _ _⟩⟩⟩
    | cnt =>
      cases hex
      simp only [cS] at hpl hB ⊢
      have g := goto_reach pc lp.cont m hpl hlp.1
      exact ⟨fun h => absurd h (by decide), fun _ => ⟨⟨lp.cont, m⟩, g, by simp only [Post]; exact ⟨trivial, hinv, Keep.refl _ _ _⟩⟩⟩
    | tryStop body handler k =>
      exact tryStop_ok lib fok f ih F D ra hra lp hlp md sb dc body handler k Γ env pc o m env' tr res hpl hB hinv hd hwf hpk ho hex hck hs
end

end HidVerif.Core
