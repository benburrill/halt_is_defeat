import HidVerif.Compiler.Core
/-!
# Core compiler model: output sizes

`len*` are the sizes the compile functions use to compute forward jump targets; here they are
shown to be the lengths of the emitted code (independently of the placement address).

The compile functions destructure `cE`'s triples with `let (c, v, p) := …`; by eta for pairs they equal
the same expressions written with projections (`cE_bin`, `cB_cmp`, …), which the proofs unfold with.
-/
namespace HidVerif.Core
open HidVerif HidVerif.Sphinx

theorem arith_len (cx : Cx) (pc : Nat) (op : AOp) (rout : Nat) (a b : Arg) :
    (arith cx pc op rout a b).length = if needsGuard op && cx.checked then 5 else 1 := by
  unfold arith; split <;> rfl

theorem finish_len (cx : Cx) (o rout : Nat) (keep : Bool) (c : List Instr) :
    (finish cx o rout keep c).1.length = c.length + if keep then 1 else 0 := by
  cases keep <;> simp [finish]

def ld : Opd → Nat
  | .slot _ => 1
  | _ => 0

theorem getOp_len (cx : Cx) (r : Nat) (v : Opd) : (getOp cx r v).1.length = ld v := by
  cases v <;> rfl

/-- the accessor `cE` returns, by the shape of the expression -/
def shape (cx : Cx) (Γ : Gam) (o rout : Nat) (e : E) (keep : Bool) : Opd × Bool :=
  match e with
  | .lit v => (.imm v, false)
  | .var x => (.slot (look Γ x), false)
  | _ => if keep then (.slot (o + cx.w), true) else (.reg rout, false)

theorem shape_compound (cx : Cx) (Γ : Gam) (o rout : Nat) {e : E} (keep : Bool) (h : isSafe e = false) :
    shape cx Γ o rout e keep = if keep then (.slot (o + cx.w), true) else (.reg rout, false) := by
  cases e <;> first | rfl | cases h

theorem ld_shape (cx : Cx) (Γ : Gam) (o rout : Nat) (e : E) (keep : Bool) :
    ld (shape cx Γ o rout e keep).1 = (match e with | .var _ => 1 | .lit _ => 0 | _ => if keep then 1 else 0) := by
  cases e <;> cases keep <;> rfl

theorem ld_shape_false (cx : Cx) (Γ : Gam) (o rout : Nat) (e : E) :
    ld (shape cx Γ o rout e false).1 = (match e with | .var _ => 1 | _ => 0) := by
  cases e <;> rfl

theorem gV_eq (cx : Cx) (Γ : Gam) (pc o r : Nat) (e : E) :
    gV cx Γ pc o r e = ((cE cx Γ pc o r e false).1 ++ (getOp cx r (cE cx Γ pc o r e false).2.1).1,
      (getOp cx r (cE cx Γ pc o r e false).2.1).2) := rfl

/-- the operands of a binary operation or a comparison: the left one (kept on the stack when the right one
is compound), the right one into `r1`, then the left one fetched into `r0` -/
def opnds (cx : Cx) (Γ : Gam) (pc o : Nat) (l r : E) : List Instr :=
  (cE cx Γ pc o cx.r0 l (!isSafe r)).1 ++
    (gV cx Γ (pc + (cE cx Γ pc o cx.r0 l (!isSafe r)).1.length)
      (if (cE cx Γ pc o cx.r0 l (!isSafe r)).2.2 then o + cx.w else o) cx.r1 r).1 ++
    (getOp cx cx.r0 (cE cx Γ pc o cx.r0 l (!isSafe r)).2.1).1

def opndL (cx : Cx) (Γ : Gam) (pc o : Nat) (l r : E) : Opd :=
  (getOp cx cx.r0 (cE cx Γ pc o cx.r0 l (!isSafe r)).2.1).2

def opndR (cx : Cx) (Γ : Gam) (pc o : Nat) (l r : E) : Opd :=
  (gV cx Γ (pc + (cE cx Γ pc o cx.r0 l (!isSafe r)).1.length)
    (if (cE cx Γ pc o cx.r0 l (!isSafe r)).2.2 then o + cx.w else o) cx.r1 r).2

theorem cE_bin (cx : Cx) (Γ : Gam) (pc o rout : Nat) (op : AOp) (l r : E) (keep : Bool) :
    cE cx Γ pc o rout (.bin op l r) keep =
      finish cx o rout keep (opnds cx Γ pc o l r ++
        arith cx (pc + (opnds cx Γ pc o l r).length) op rout
          ((opndL cx Γ pc o l r).arg cx) ((opndR cx Γ pc o l r).arg cx)) := by
  simp only [cE, opnds, opndL, opndR, gV_eq, List.append_assoc]

theorem cE_neg (cx : Cx) (Γ : Gam) (pc o rout : Nat) (e : E) (keep : Bool) :
    cE cx Γ pc o rout (.neg e) keep = finish cx o rout keep
      ((gV cx Γ pc o rout e).1 ++ [.alu .sub rout (.imm 0) ((gV cx Γ pc o rout e).2.arg cx)]) := rfl

theorem cE_pos (cx : Cx) (Γ : Gam) (pc o rout : Nat) (e : E) (keep : Bool) :
    cE cx Γ pc o rout (.pos e) keep = finish cx o rout keep
      ((gV cx Γ pc o rout e).1 ++
        (if (gV cx Γ pc o rout e).2 = .reg rout then [] else [.mov rout ((gV cx Γ pc o rout e).2.arg cx)])) := rfl

theorem finish_snd (cx : Cx) (o rout : Nat) (keep : Bool) (c : List Instr) :
    (finish cx o rout keep c).2 = if keep then (.slot (o + cx.w), true) else (.reg rout, false) := by
  cases keep <;> rfl

theorem cE_shape (cx : Cx) (Γ : Gam) (e : E) (pc o rout : Nat) (keep : Bool) :
    (cE cx Γ pc o rout e keep).2 = shape cx Γ o rout e keep := by
  cases e with
  | lit v => rfl
  | var x => rfl
  | bin op l r => rw [cE_bin, finish_snd]; rfl
  | neg e => rw [cE_neg, finish_snd]; rfl
  | pos e => rw [cE_pos, finish_snd]; rfl

theorem cE_opd (cx : Cx) (Γ : Gam) (e : E) (pc o rout : Nat) (keep : Bool) :
    (cE cx Γ pc o rout e keep).2.1 = (shape cx Γ o rout e keep).1 := by rw [← cE_shape]

theorem cE_pushed (cx : Cx) (Γ : Gam) (e : E) (pc o rout : Nat) (keep : Bool) :
    (cE cx Γ pc o rout e keep).2.2 = (shape cx Γ o rout e keep).2 := by rw [← cE_shape]

theorem cB_cmp (cx : Cx) (Γ : Gam) (pc o : Nat) (op : COp) (l r : E) (ifT ifF : List Instr) :
    cB cx Γ pc o (.cmp op l r) ifT ifF =
      opnds cx Γ pc o l r ++
        [.j (.imm (pc + (opnds cx Γ pc o l r).length + 2 + ifF.length + (if endsGoto ifF then 0 else 2))),
         .hcond (cmpHalt op) ((opndL cx Γ pc o l r).arg cx) ((opndR cx Γ pc o l r).arg cx)] ++ ifF
        ++ (if endsGoto ifF then [] else
              goto (pc + (opnds cx Γ pc o l r).length + 2 + ifF.length + (if endsGoto ifF then 0 else 2) + 1 + ifT.length))
        ++ [.hcond (invHalt op) ((opndL cx Γ pc o l r).arg cx) ((opndR cx Γ pc o l r).arg cx)] ++ ifT := by
  simp only [cB, opnds, opndL, opndR, gV_eq, List.append_assoc]

theorem cD_cmp (cx : Cx) (vd : Bool) (Γ : Gam) (pc o : Nat) (op : COp) (l r : E) :
    cD cx vd Γ pc o (.cmp op l r) =
      opnds cx Γ pc o l r ++ (if vd then [.j (.st cx.dA)] else []) ++
        [.hcond (cmpHalt op) ((opndL cx Γ pc o l r).arg cx) ((opndR cx Γ pc o l r).arg cx)] := by
  simp only [cD, opnds, opndL, opndR, gV_eq, List.append_assoc]

theorem pushE_eq (cx : Cx) (Γ : Gam) (pc o : Nat) (e : E) :
    pushE cx Γ pc o e =
      if (cE cx Γ pc o cx.r1 e true).2.2 then (cE cx Γ pc o cx.r1 e true).1 else
        (cE cx Γ pc o cx.r1 e true).1 ++ (getOp cx cx.r1 (cE cx Γ pc o cx.r1 e true).2.1).1 ++
          [stSlot cx (o + cx.w) ((getOp cx cx.r1 (cE cx Γ pc o cx.r1 e true).2.1).2.arg cx)] := rfl

theorem pushE_compound (cx : Cx) (Γ : Gam) (pc o : Nat) {e : E} (h : isSafe e = false) :
    pushE cx Γ pc o e = (cE cx Γ pc o cx.r1 e true).1 := by
  cases e <;> first | rfl | cases h

theorem pushE_safe (cx : Cx) (Γ : Gam) (pc o : Nat) {e : E} (h : isSafe e = true) :
    pushE cx Γ pc o e =
      (gV cx Γ pc o cx.r1 e).1 ++ [stSlot cx (o + cx.w) ((gV cx Γ pc o cx.r1 e).2.arg cx)] := by
  cases e <;> first | rfl | cases h

/-- the size of `opnds`; `lenE`, `lenB` and `lenD` each spell it out -/
def lenOps (ck : Bool) (l r : E) : Nat :=
  lenE l ck (!isSafe r) + (lenE r ck false + (match r with | .var _ => 1 | _ => 0))
    + (match l with | .var _ => 1 | .lit _ => 0 | _ => if isSafe r then 0 else 1)

theorem lenE_bin (ck : Bool) (op : AOp) (l r : E) (keep : Bool) :
    lenE (.bin op l r) ck keep = lenOps ck l r + (if needsGuard op && ck then 5 else 1) + (if keep then 1 else 0) := rfl

theorem lenB_cmp (ck : Bool) (op : COp) (l r : E) (nT nF : Nat) (tG fG : Bool) :
    lenB ck (.cmp op l r) nT nF tG fG = lenOps ck l r + 2 + nF + (if fG then 0 else 2) + 1 + nT := rfl

theorem lenD_cmp (ck vd : Bool) (op : COp) (l r : E) :
    lenD ck vd (.cmp op l r) = lenOps ck l r + (if vd then 2 else 1) := rfl

theorem gV_len_of (cx : Cx) (Γ : Gam) (pc o r : Nat) (e : E) :
    (∀ pc o rout keep, (cE cx Γ pc o rout e keep).1.length = lenE e cx.checked keep) →
    (gV cx Γ pc o r e).1.length = lenE e cx.checked false + (match e with | .var _ => 1 | _ => 0) := by
  intro h
  rw [gV_eq, List.length_append, h, getOp_len, cE_opd, ld_shape_false]

theorem opnds_len_of (cx : Cx) (Γ : Gam) (pc o : Nat) (l r : E) :
    (∀ pc o rout keep, (cE cx Γ pc o rout l keep).1.length = lenE l cx.checked keep) →
    (∀ pc o rout keep, (cE cx Γ pc o rout r keep).1.length = lenE r cx.checked keep) →
    (opnds cx Γ pc o l r).length = lenOps cx.checked l r := by
  intro hl hr
  simp only [opnds, lenOps, List.length_append, gV_len_of cx Γ _ _ _ r hr, hl, getOp_len, cE_opd, ld_shape]
  cases isSafe r <;> rfl

theorem cE_len (cx : Cx) (Γ : Gam) (e : E) : ∀ (pc o rout : Nat) (keep : Bool),
    (cE cx Γ pc o rout e keep).1.length = lenE e cx.checked keep := by
  induction e with
  | lit v => intros; rfl
  | var x => intros; rfl
  | bin op l r ihl ihr =>
    intro pc o rout keep
    rw [cE_bin, finish_len, List.length_append, arith_len, opnds_len_of cx Γ pc o l r ihl ihr, lenE_bin]
  | neg e ih =>
    intro pc o rout keep
    rw [cE_neg, finish_len, List.length_append, gV_len_of cx Γ pc o rout e ih]; rfl
  | pos e ih =>
    intro pc o rout keep
    rw [cE_pos, finish_len, List.length_append, gV_len_of cx Γ pc o rout e ih, gV_eq, cE_opd]
    cases e <;> simp [shape, getOp, lenE]

@[simp] theorem endsGoto_nil : endsGoto [] = false := rfl
@[simp] theorem endsGoto_goto (t : Nat) : endsGoto (goto t) = true := rfl
@[simp] theorem endsGoto_append_goto (l : List Instr) (t : Nat) : endsGoto (l ++ goto t) = true := by
  simp [endsGoto, goto]
@[simp] theorem goto_len (t : Nat) : (goto t).length = 2 := rfl

theorem opnds_len (cx : Cx) (Γ : Gam) (pc o : Nat) (l r : E) :
    (opnds cx Γ pc o l r).length = lenOps cx.checked l r :=
  opnds_len_of cx Γ pc o l r (cE_len cx Γ l) (cE_len cx Γ r)

theorem cB_len (cx : Cx) (Γ : Gam) (b : B) : ∀ (pc o : Nat) (ifT ifF : List Instr),
    (cB cx Γ pc o b ifT ifF).length
      = lenB cx.checked b ifT.length ifF.length (endsGoto ifT) (endsGoto ifF) := by
  induction b with
  | lit v => intro pc o ifT ifF; cases v <;> rfl
  | cmp op l r =>
    intro pc o ifT ifF
    simp only [cB_cmp, lenB_cmp, List.length_append, opnds_len, List.length_cons, List.length_nil]
    cases endsGoto ifF <;> simp <;> omega
  | not b ih => intro pc o ifT ifF; exact ih pc o ifF ifT
  | and l r ihl ihr =>
    intro pc o ifT ifF
    simp only [cB, lenB, List.length_append, ihl, ihr]
    cases hg : endsGoto ifF <;> simp [hg]
  | or l r ihl ihr =>
    intro pc o ifT ifF
    simp only [cB, lenB, List.length_append, ihl, ihr]
    cases hg : endsGoto ifT <;> simp [hg]

theorem cD_len (cx : Cx) (vd : Bool) (Γ : Gam) (b : B) : ∀ (pc o : Nat), (cD cx vd Γ pc o b).length = lenD cx.checked vd b := by
  induction b with
  | lit v => intro pc o; cases v <;> cases vd <;> rfl
  | cmp op l r =>
    intro pc o
    simp only [cD_cmp, lenD_cmp, List.length_append, opnds_len]
    cases vd <;> rfl
  | not b _ => intro pc o; rfl
  | and l r _ _ => intro pc o; rfl
  | or l r ihl ihr => intro pc o; simp only [cD, lenD, List.length_append, ihl, ihr]

theorem pushE_len (cx : Cx) (Γ : Gam) (pc o : Nat) (e : E) :
    (pushE cx Γ pc o e).length = lenPush cx.checked e := by
  rw [pushE_eq, cE_pushed, cE_opd]
  cases e <;> simp only [shape, lenPush, if_true, Bool.false_eq_true, if_false, cE_len] <;> rfl

theorem gV_len (cx : Cx) (Γ : Gam) (pc o r : Nat) (e : E) :
    (gV cx Γ pc o r e).1.length = lenGV cx.checked e :=
  gV_len_of cx Γ pc o r e (cE_len cx Γ e)

theorem cWrite_len (cx : Cx) (Γ : Gam) (pc o : Nat) (e : E) :
    (cWrite cx Γ pc o e).length = lenWrite cx.checked e := by
  simp [cWrite, lenWrite, pushE_len]; omega

theorem cArgs_len (cx : Cx) (Γ : Gam) (args : List E) : ∀ (pc o : Nat), (cArgs cx Γ pc o args).length = lenArgs cx.checked args := by
  induction args with
  | nil => intros; rfl
  | cons e es ih => intro pc o; simp [cArgs, lenArgs, pushE_len, ih]

theorem cCall_len (cx : Cx) (fa : FAddr) (Γ : Gam) (pc o : Nat) (g : String) (args : List E) :
    (cCall cx fa Γ pc o g args).length = lenCall cx.checked args := by
  simp [cCall, lenCall, cArgs_len]; omega

theorem cS_len (cx : Cx) (fa : FAddr) (s : S) : ∀ (lp : Jt) (Γ : Gam) (pc o : Nat),
    (cS cx fa lp Γ pc o s).length = lenS cx.checked lp.vd s := by
  induction s with
  | nil => intros; rfl
  | ret => intros; rfl
  | decl x e k ih => intro lp Γ pc o; simp only [cS, lenS, List.length_append, pushE_len, ih]
  | assign x e k ih =>
    intro lp Γ pc o
    show ((gV cx Γ pc o cx.r1 e).1 ++ [_] ++ cS cx fa lp Γ _ o k).length = _
    simp only [lenS, List.length_append, gV_len, ih, List.length_cons, List.length_nil]
  | write e k ih => intro lp Γ pc o; simp only [cS, lenS, List.length_append, cWrite_len, ih]
  | writeln e k ih =>
    intro lp Γ pc o
    cases e <;> simp only [cS, lenS, List.length_append, List.length_cons, List.length_nil, cWrite_len, ih] <;> omega
  | putc c k ih => intro lp Γ pc o; simp only [cS, lenS, List.length_cons, ih]; omega
  | block b k ihb ihk => intro lp Γ pc o; simp only [cS, lenS, List.length_append, ihb, ihk]
  | ifb c t e k iht ihe ihk =>
    intro lp Γ pc o
    simp only [cS, lenS, List.length_append, cB_len, iht, ihe, ihk, goto_len, endsGoto_nil, endsGoto_goto, List.length_nil]
  | loop c body cont k ihb ihc ihk =>
    intro lp Γ pc o
    simp only [cS, lenS, List.length_append, cB_len, ihb, ihc, ihk, goto_len, endsGoto_nil, endsGoto_goto, List.length_nil]
  | defeat k ih =>
    intro lp Γ pc o
    cases hv : lp.vd <;> simp only [cS, lenS, hv, ih, if_true, if_false, Bool.false_eq_true, List.length_append, List.length_cons, List.length_nil] <;> omega
  | defeatIf c k ih => intro lp Γ pc o; simp only [cS, lenS, List.length_append, cD_len, ih]
  | tryUndo body handler k ihb ihh ihk =>
    intro lp Γ pc o
    simp only [cS, lenS, List.length_append, List.length_cons, List.length_nil, goto_len, ihb, ihh, ihk]
  | retE e =>
    intro lp Γ pc o
    show ((gV cx Γ pc o cx.r0 e).1 ++ [_, _, _, _]).length = _
    simp only [lenS, List.length_append, gV_len, List.length_cons, List.length_nil]
  | callS g args k ih => intro lp Γ pc o; simp only [cS, lenS, List.length_append, cCall_len, ih]
  | declCall x g args k ih => intro lp Γ pc o; simp only [cS, lenS, List.length_append, cCall_len, ih]
  | assignCall x g args k ih =>
    intro lp Γ pc o; simp only [cS, lenS, List.length_append, List.length_cons, List.length_nil, cCall_len, ih]
  | brk => intros; rfl
  | cnt => intros; rfl
  | tryStop body handler k ihb ihh ihk =>
    intro lp Γ pc o
    simp only [cS, lenS, List.length_append, List.length_cons, List.length_nil, goto_len, ihb, ihh, ihk]
end HidVerif.Core
