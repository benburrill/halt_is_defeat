import HidVerif.Proofs.Templates
/-!
# The runtime checks are exact (C05), pure observers (C15) and safe (C04) — template level
-/
namespace HidVerif.Sphinx
open HidVerif HidVerif.PSys HidVerif.Gen HidVerif.Compiler

/-- unsigned `idx < len` is the two-sided bounds check, because lengths are non-negative -/
theorem index_guard_arith {M idx len : Nat} (hlen : len < M / 2) (hidx : idx < M) :
    idx < len ↔ (0 ≤ toS M idx ∧ toS M idx < (len : Int)) := by
  unfold toS; split <;> omega

/-- `len ≤ max_length` excludes negative lengths and sizes that wrap -/
theorem length_guard_arith {M w len : Nat} (hw : 0 < w) (hH : 0 < M / 2) (hlen : len ≤ (M / 2 - 1) / w) :
    len * w < M / 2 ∧ toS M len = (len : Int) := by
  have h1 : len * w ≤ M / 2 - 1 :=
    Nat.le_trans (Nat.mul_le_mul_right w hlen) (Nat.div_mul_le_self _ _)
  have h2 : len ≤ len * w := Nat.le_mul_of_pos_right _ hw
  refine ⟨by omega, ?_⟩
  unfold toS; split <;> omega

section
variable {p : Prog} {B pc ok : Nat} {m : Mem}

theorem guard_fail_stub (hp : Placed p B) {ok off : Nat} {c : HaltOp} {a b : Arg} {x y : Nat} {fs : List Ev}
    (h : PlacedAt p pc (guardT ok c a b (B + off))) (hok : ok < 256 ^ p.w) (hoff : off ≤ stdlibLength)
    (ha : ∀ pc', evalArg p ⟨pc', m⟩ a = some x) (hb : ∀ pc', evalArg p ⟨pc', m⟩ b = some y)
    (hc : haltCond p.M c x y = false) (hs : Reach (sphinx p) ⟨B + off, m⟩ fs ⟨tntPc B, m⟩) :
    Exec (sphinx p) ⟨pc, m⟩ fs ⟨tntPc B, m⟩ ∧ ¬ Halts (sphinx p) ⟨pc, m⟩ := by
  obtain ⟨e1, hn⟩ := hs.exec (tnt_never_halts hp m)
  obtain ⟨e, hn'⟩ := guard_fail h hok (hp.lt off hoff) ha hb hc hn
  exact ⟨exec_trans e e1, hn'⟩

/-- **division guard**: passes (memory untouched) iff the divisor is non-zero; otherwise
exactly `division_by_zero`, `error`, and nothing else ever -/
theorem div_guard_exact (hp : Placed p B) {b : Arg} {y : Nat}
    (h : PlacedAt p pc (divGuard ok b (B + off_division_by_zero))) (hok : ok < 256 ^ p.w)
    (hb : ∀ pc', evalArg p ⟨pc', m⟩ b = some y) :
    (y ≠ 0 → Reach (sphinx p) ⟨pc, m⟩ [] ⟨ok, m⟩) ∧
    (y = 0 → Exec (sphinx p) ⟨pc, m⟩ [Ev.flag "division_by_zero", Ev.flag "error"] ⟨tntPc B, m⟩ ∧
              ¬ Halts (sphinx p) ⟨pc, m⟩) :=
  have hz : ∀ pc', evalArg p ⟨pc', m⟩ (.imm 0) = some 0 := fun _ => rfl
  ⟨fun hy => guard_pass h hok hb hz (hne0.trans (decide_eq_true hy)),
   fun hy => guard_fail_stub hp h hok (by decide) hb hz (hne0.trans (decide_eq_false (not_not_intro hy)))
     (error_stub_reach hp m).2.1⟩

/-- **index guard**: passes iff `0 ≤ idx < len` (signed reading, `len` non-negative); otherwise
exactly `out_of_bounds`, `error`; in both cases no load or store has been executed -/
theorem index_guard_exact (hp : Placed p B) {ia la : Arg} {idx len : Nat}
    (h : PlacedAt p pc (indexGuard ok ia la (B + off_out_of_bounds))) (hok : ok < 256 ^ p.w)
    (hi : ∀ pc', evalArg p ⟨pc', m⟩ ia = some idx) (hl : ∀ pc', evalArg p ⟨pc', m⟩ la = some len)
    (hlen : len < 256 ^ p.w / 2) (hidx : idx < 256 ^ p.w) :
    ((0 ≤ toS (256 ^ p.w) idx ∧ toS (256 ^ p.w) idx < (len : Int)) → Reach (sphinx p) ⟨pc, m⟩ [] ⟨ok, m⟩) ∧
    (¬ (0 ≤ toS (256 ^ p.w) idx ∧ toS (256 ^ p.w) idx < (len : Int)) →
        Exec (sphinx p) ⟨pc, m⟩ [Ev.flag "out_of_bounds", Ev.flag "error"] ⟨tntPc B, m⟩ ∧
        ¬ Halts (sphinx p) ⟨pc, m⟩) :=
  have ar := index_guard_arith hlen hidx
  ⟨fun hin => guard_pass h hok hi hl (decide_eq_true (ar.2 hin)),
   fun hout => guard_fail_stub hp h hok (by decide) hi hl (decide_eq_false (fun hh => hout (ar.1 hh)))
     (error_stub_reach hp m).2.2.1⟩

/-- **length guard** of a dynamic array: passes iff the length is at most `maxLen`; otherwise
exactly `stack_overflow`, `error` -/
theorem length_guard_exact (hp : Placed p B) {la : Arg} {len maxLen : Nat}
    (h : PlacedAt p pc (lengthGuard ok la maxLen (B + off_stack_overflow))) (hok : ok < 256 ^ p.w)
    (hl : ∀ pc', evalArg p ⟨pc', m⟩ la = some len) (hmx : maxLen < 256 ^ p.w) :
    (len ≤ maxLen → Reach (sphinx p) ⟨pc, m⟩ [] ⟨ok, m⟩) ∧
    (¬ len ≤ maxLen → Exec (sphinx p) ⟨pc, m⟩ [Ev.flag "stack_overflow", Ev.flag "error"] ⟨tntPc B, m⟩ ∧
        ¬ Halts (sphinx p) ⟨pc, m⟩) :=
  have hmxe : ∀ pc', evalArg p ⟨pc', m⟩ (.imm maxLen) = some maxLen := fun _ => ev_imm_lt hmx
  ⟨fun hle => guard_pass h hok hl hmxe (decide_eq_true hle),
   fun hgt => guard_fail_stub hp h hok (by decide) hl hmxe (decide_eq_false hgt) (error_stub_reach hp m).1⟩
end

/-- free space computed by `sub [r1], [fp], [ap]` -/
theorem gap_arith {M fp ap : Nat} (h : ap ≤ fp) (hfp : fp < M) : (fp + M - ap % M) % M = fp - ap :=
  sub_mod_small h hfp

/-- **function-entry guard**: with `ap ≤ fp` it passes iff `k` more bytes fit below `fp`
(`ap + k ≤ fp`); when it passes memory is untouched — the scratch subtraction into `r1` sits on
the path not taken and is never committed -/
theorem entry_guard_exact {p : Prog} {B pc ok k : Nat} {m : Mem} (hp : Placed p B)
    (h : PlacedAt p pc (entryGuard p.w ok k (B + off_stack_overflow))) (hok : ok < 256 ^ p.w)
    (hsz : 5 * p.w ≤ m.size) (hk : k < 256 ^ p.w)
    {fp ap : Nat} (hfp : m.readLE p.w p.w = fp) (hap : m.readLE 0 p.w = ap) (hle : ap ≤ fp) :
    (ap + k ≤ fp → Reach (sphinx p) ⟨pc, m⟩ [] ⟨ok, m⟩) ∧
    (¬ ap + k ≤ fp → ∃ m', Exec (sphinx p) ⟨pc, m⟩ [Ev.flag "stack_overflow", Ev.flag "error"] ⟨tntPc B, m'⟩ ∧
        ¬ Halts (sphinx p) ⟨pc, m⟩) := by
  have hw := hp.hw
  have hM := pow_ge2 p.w hw
  have h5 := five_w_lt p.w hw
  have c0 : p.code[pc]? = _ := h.get 0 rfl
  have c2 := h.get 2 rfl
  have hfpM : fp < 256 ^ p.w := hfp ▸ Mem.readLE_lt _ _ _
  have s0 := step_j (m := m) c0 (ev_imm_lt hok)
  have e_fp : evalArg p ⟨pc + 1, m⟩ (.st p.w) = some fp := by
    rw [ev_st (w_lt_pow p.w) (Nat.le_trans (fp_le (by decide)) hsz), hfp]
  have e_ap : evalArg p ⟨pc + 1, m⟩ (.st 0) = some ap := by
    rw [ev_st (Nat.pow_pos (by decide))
      (by rw [Nat.zero_add]; exact Nat.le_trans (Nat.le_mul_of_pos_left p.w (by decide)) hsz), hap]
  have s1 := step_alu (m := m) (h.get 1 rfl) e_fp e_ap (alu_sub_le hle hfpM)
    (reg_lt hw (by decide)) (Nat.le_trans (reg_le (by decide)) hsz)
  generalize hm1 : m.writeLE (3 * p.w) p.w (fp - ap) = m1 at *
  have e_r1 : evalArg p ⟨pc + 2, m1⟩ (.st (3 * p.w)) = some (fp - ap) := by
    have h3 := Nat.le_trans (reg_le (w := p.w) (by decide : 3 < 5)) hsz
    rw [ev_st (reg_lt hw (by decide)) (by rw [← hm1, Mem.size_writeLE]; exact h3), ← hm1,
      Mem.readLE_writeLE_same _ _ _ _ h3]
    exact congrArg some (Nat.mod_eq_of_lt (Nat.lt_of_le_of_lt (Nat.sub_le _ _) hfpM))
  constructor
  · -- the not-taken side subtracts and halts: the jump is committed and the subtraction is not
    intro hfit
    exact Reach.jump_taken' (sys := sphinx p) s0 (Halts.next (sys := sphinx p) s1
      (hcond_halts c2 e_r1 (ev_imm_lt hk) (decide_eq_true (show fp - ap ≥ k by omega))))
  · intro hno
    have r14 : Reach (sphinx p) ⟨pc + 1, m⟩ [] ⟨B + off_stack_overflow, m1⟩ :=
      (Reach.of_next (sys := sphinx p) s1).trans
        ((hcond_pass c2 e_r1 (ev_imm_lt hk) (decide_eq_false (show ¬ fp - ap ≥ k by omega))).trans
        (jump_halt (h.get 3 rfl) (h.get 4 rfl) (ev_imm_lt (hp.lt off_stack_overflow (by decide)))))
    have rs := r14.trans (error_stub_reach hp m1).1
    have t := tnt_never_halts hp m1
    have all := (Reach.jump_over (sys := sphinx p) s0 rs t).exec t
    exact ⟨m1, by simpa using all.1, all.2⟩

end HidVerif.Sphinx
