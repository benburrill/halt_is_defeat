import HidVerif.Proofs.CoreExecDefs
/-!
# Core compiler proofs: a call of a user function

Around the caller's protocol (`call_ra`, `call_jump`, `call_leave`) the callee's body is covered by the
induction hypothesis of `cS_ok`.
A defeat function (`!name`) runs in the situation of its caller: a defeat inside it takes the machine to the
handler with the *callee's* frame pointer still in place (`SInvD`, `KeepD`).
-/
namespace HidVerif.Core
open HidVerif HidVerif.PSys HidVerif.Sphinx HidVerif.Gen

section
variable {p : Prog} {ck : Bool} {B : Nat} {dA : Nat} {fa : FAddr} {fns : List FDecl}

theorem call_ok (lib : Placed p B) (fok : FnsOK p ck B dA fa fns) (f : Nat) (ih : StmtOK p ck B dA fa fns f)
    (F D ra : Nat) (hra : ra < 256 ^ p.w) (md : Md) (Γ : Gam) (env : Env) (pc o : Nat) (m : Mem)
    (hinv : SInv p md Γ env m F D o ra) (ho : p.w ≤ o) :
∀ (g : String) (args : List E) (trc : List Ev) (flag : Option Res) (rv : Option Nat),
    PlacedAt p pc (cCall (cxOf p ck B dA) fa Γ pc o g args) →
    pc + (cCall (cxOf p ck B dA) fa Γ pc o g args).length ≤ B →
    args.all (boundE (Γ.map Prod.fst)) = true → pkCall p.w o args ≤ D →
    callWith (256 ^ p.w) (8 * p.w) fns p.w (exec (256 ^ p.w) (8 * p.w) fns p.w f) D o env g args
      = some (trc, flag, rv) →
    (∀ r, flag = some r → FaultOK ck fns p.w r) →
    -- a defeat function is called where defeat calls go through the word `defeat`, and the caller says in which
    -- world: every handler halts, or neither the return to the caller nor a defeat inside the callee ends in a halt
    (isDfn fns g = true → ∃ v, md = .stop dA v) →
    (isDfn fns g = true → HaltW p md ∨
      ((flag = none → ∀ m', Keep p.w m m' (F - o) → (∀ v, rv = some v → m'.readLE (F - (o + p.w)) p.w = v) →
          ¬ Halts (sphinx p) ⟨pc + (cCall (cxOf p ck B dA) fa Γ pc o g args).length, m'⟩) ∧
       (flag = some .defeat → ∀ st', (∃ a v, md = .stop a v ∧ st'.pc = v ∧ SInvD p md Γ env st'.mem F D o ra ∧
          KeepD p.w m st'.mem (md.kb F p.w)) → ¬ Halts (sphinx p) st'))) →
    (flag = some .div0 → ∃ m', Reach (sphinx p) ⟨pc, m⟩ trc ⟨B + off_division_by_zero, m'⟩) ∧
    (flag = some .ovf → ∃ m', Reach (sphinx p) ⟨pc, m⟩ trc ⟨B + off_stack_overflow, m'⟩) ∧
    (flag = none → ∃ m', Reach (sphinx p) ⟨pc, m⟩ trc
        ⟨pc + (cCall (cxOf p ck B dA) fa Γ pc o g args).length, m'⟩ ∧ Keep p.w m m' (F - o) ∧
      ∀ v, rv = some v → m'.readLE (F - (o + p.w)) p.w = v) ∧
    (flag = some .defeat → ∃ st', Reach (sphinx p) ⟨pc, m⟩ trc st' ∧
      ∃ a v, md = .stop a v ∧ st'.pc = v ∧ SInvD p md Γ env st'.mem F D o ra ∧ KeepD p.w m st'.mem (md.kb F p.w)) := by
  have hw := lib.hw
  have hBM := lib.hB
  have fr := hinv.fr
  have hroom := fr.room; have htop := fr.top; have hFM := fr.lt
  intro g args trc flag rv hplc hBc hba hpkc hcw hfl hdf hwld
  have hpkA : pkArgs p.w (o + p.w) args ≤ D := Nat.le_trans (Nat.le_max_right _ _) hpkc
  have hoW : o + p.w ≤ D := Nat.le_trans (Nat.le_max_left _ _) hpkc
  obtain ⟨A, D', hA, hD, hG, hA5, hAF, eF⟩ := callee_frame hroom hoW
  have hA2 : 2 * p.w ≤ A := Nat.le_trans (Nat.mul_le_mul_right _ (by decide)) hA5
  rw [(eF ()).1, (eF ()).2.1] at hwld ⊢
  have hcx : (cxOf p ck B dA).checked = ck := rfl
  rw [cCall_len, hcx] at hBc hwld ⊢
  unfold cCall at hplc
  obtain ⟨hpl12, hpl3⟩ := hplc.append
  obtain ⟨hpl1, hpl2⟩ := hpl12.append
  simp only [List.length_append, List.length_cons, List.length_nil, Nat.zero_add, cArgs_len, ← Nat.add_assoc] at hpl1 hpl2 hpl3
  simp only [lenCall, ← Nat.add_assoc] at hBc hwld ⊢
  generalize hnA : lenArgs ck args = nA at *
  have hend : pc + 1 + nA + 3 < 256 ^ p.w := by omega
  obtain ⟨s0, k0, hra1⟩ := call_ra hw fr hA ho hoW hend hpl1
  generalize hm1 : m.writeLE A p.w (pc + 1 + nA + 3) = m1 at s0 k0 hra1
  have hp := cArgs_ok (ck := ck) (dA := dA) lib Γ env F D args (pc + 1) (o + p.w) m1 hpl2
    (by rw [cArgs_len, hcx, hnA]; omega) (fr.keep k0) (hinv.vars.keep k0 (Nat.le_of_eq (eF ()).1.symm) (Nat.le_add_right _ _)) hba hpkA (Nat.le_add_left _ _)
  rw [cArgs_len, hcx, hnA, (eF ()).2.1] at hp
  unfold callWith at hcw
  rw [(eF ()).2.2] at hcw
  cases hev : evalArgs (256 ^ p.w) (8 * p.w) env args with
  | none =>
    simp only [hev, Option.some.injEq, Prod.mk.injEq] at hcw
    obtain ⟨rfl, rfl, rfl⟩ := hcw
    obtain ⟨m', rd⟩ := hp.2 hev (hfl .div0 rfl)
    exact ⟨fun _ => ⟨m', reach_seq s0 rd⟩, fun h => absurd h (by simp), fun h => absurd h (by simp), fun h => absurd h (by simp)⟩
  | some vs =>
    simp only [hev] at hcw
    cases hfind : fns.find? (fun fd => fd.name == g) with
    | none => simp [hfind] at hcw
    | some fd =>
      simp only [hfind] at hcw
      have hmem : fd ∈ fns := List.mem_of_find?_eq_some hfind
      have hname : fd.name = g := by simpa using List.find?_some hfind
      subst hname
      by_cases hcond : vs.length ≠ fd.params.length ∨ D < o
      · simp [hcond] at hcw
      · rw [if_neg hcond] at hcw
        have hvl : vs.length = fd.params.length := Classical.not_not.1 (fun h => hcond (Or.inl h))
        clear hcond
        obtain ⟨m2, r2, k2, hsl2⟩ := hp.1 vs hev
        have fr2 := (fr.keep k0).keep k2
        obtain ⟨c0, h⟩ := placed_cons hpl3; obtain ⟨c1, h⟩ := placed_cons h; obtain ⟨c2, h⟩ := placed_cons h
        have c3 := placed_one h
        have hplf := fok.placed fd hmem
        have hBf := fok.inB fd hmem
        have hfaM : faddr fa fd.name < 256 ^ p.w := by omega
        obtain ⟨r3, fr3, hrd3⟩ := call_jump (D' := D') hw fr2 hG hD ho hfaM c0 c1 c2
        have hsz3 : (m2.writeLE p.w p.w (A + p.w)).size = m2.size := by simp
        generalize hm3 : m2.writeLE p.w p.w (A + p.w) = m3 at r3 fr3 hrd3 hsz3
        have hra3 : m3.readLE (A + p.w - p.w) p.w = pc + 1 + nA + 3 := by
          rw [Nat.add_sub_cancel, Mem.readLE_congr _ _ _ _ (fun x h _ => hrd3 x (Nat.le_trans hA2 h)), k2.read _ _ (Nat.le_refl _), hra1]
        by_cases hp : D' < pkS p.w (entryOff p.w fd.params) fd.body
        · rw [if_pos hp] at hcw
          simp only [Option.some.injEq, Prod.mk.injEq] at hcw
          obtain ⟨rfl, rfl, rfl⟩ := hcw
          obtain ⟨hckt, hpkM⟩ := hfl .ovf rfl
          obtain ⟨m', rso⟩ := (prologue_ok (ck := ck) (dA := dA) lib fa (faddr fa fd.name) fd.dfn fd.params fd.body m3 (A + p.w) D' fr3
            hplf hBf (hpkM fd hmem)).2 hckt (by rw [← fr3.room, Nat.add_sub_cancel_left]; exact hp)
          refine ⟨fun h => absurd h (by simp), fun _ => ⟨m', ?_⟩, fun h => absurd h (by simp), fun h => absurd h (by simp)⟩
          simpa [evl] using s0.trans (r2.trans (r3.trans rso))
        rw [if_neg hp] at hcw
        have hfit : pkS p.w (entryOff p.w fd.params) fd.body ≤ D' := Nat.le_of_not_lt hp
        have hpro := (prologue_ok (ck := ck) (dA := dA) lib fa (faddr fa fd.name) fd.dfn fd.params fd.body m3 (A + p.w) D' fr3
          hplf hBf (by omega)).1 (by rw [← fr3.room, Nat.add_sub_cancel_left]; exact hfit)
        have hsl3 : SlotsAt p.w m3 (A + p.w) (2 * p.w) vs := by
          refine SlotsAt_shift p.w m3 hG vs (2 * p.w) (SlotsAt_congr p.w m2 m3 F (2 * p.w) hrd3 vs (o + 2 * p.w) ?_
            (by rw [Nat.two_mul, ← Nat.add_assoc]; exact hsl2))
          have := evalArgs_length hev
          have hpa : o + p.w + args.length * p.w ≤ pkArgs p.w (o + p.w) args := pkArgs_ge p.w args (o + p.w)
          rw [← this] at hpa
          omega
        have heo : 2 * p.w + fd.params.length * p.w - p.w = entryOff p.w fd.params := by
          unfold entryOff; rw [Nat.add_mul, Nat.one_mul]; omega
        have hvars3 := vars_slots p.w m3 (A + p.w) fd.params vs (2 * p.w) (fok.nodup fd hmem) hvl (Nat.le_refl _) hsl3
        rw [heo] at hvars3
        clear heo
        -- the situation of the callee: a defeat function runs in the caller's, any other function asks nothing
        have hisd : isDfn fns fd.name = fd.dfn := by simp [isDfn, hfind]
        have hmdc : ∃ mdc : Md, (fd.dfn = true → mdc = md ∧ ∃ v, md = .stop dA v) ∧ (fd.dfn = false → mdc = .plain) := by
          cases hdfn : fd.dfn with
          | false => exact ⟨.plain, fun h => (by cases h), fun _ => rfl⟩
          | true =>
            obtain ⟨v, hv⟩ := hdf (by rw [hisd, hdfn])
            exact ⟨md, fun _ => ⟨rfl, v, hv⟩, fun h => (by cases h)⟩
        obtain ⟨mdc, hmdT, hmdF⟩ := hmdc
        have hkb : ∀ G, mdc.kb G p.w = G := by
          intro G
          cases hdfn : fd.dfn with
          | false => rw [hmdF hdfn]; rfl
          | true => obtain ⟨e, v, hv⟩ := hmdT hdfn; rw [e, hv]; rfl
        have hmy : mdc.isYou = false := by
          cases hdfn : fd.dfn with
          | false => rw [hmdF hdfn]; rfl
          | true => obtain ⟨e, v, hv⟩ := hmdT hdfn; rw [e, hv]; rfl
        have hrdm3 : ∀ x, A + p.w ≤ x → m3.rd x = m.rd x := fun x hx => by
          rw [hrd3 x (Nat.le_trans hA2 (Nat.le_trans (Nat.le_add_right _ _) hx)), k2.hi x (Nat.le_trans (Nat.le_add_right _ _) hx), k0.hi x hx]
        have hdreg3 : DReg p mdc m3 (A + p.w) := by
          intro a v e
          cases hdfn : fd.dfn with
          | false => rw [hmdF hdfn] at e; cases e
          | true =>
            obtain ⟨e', _⟩ := hmdT hdfn
            rw [e'] at e
            obtain ⟨h1, h2, h3, h4, h5⟩ := hinv.dreg a v e
            refine ⟨Nat.le_trans (Nat.add_le_add_right hAF _) h1, by rw [hsz3, k2.size, k0.size]; exact h2, h3, ?_, h5⟩
            rw [← h4]
            exact Mem.readLE_congr _ _ _ _ (fun x hx1 hx2 => hrdm3 x (Nat.le_trans hAF (Nat.le_trans (Nat.le_add_right _ _) (Nat.le_trans h1 hx1))))
        have hinv3 : SInv p mdc (paramGam p.w (2 * p.w) fd.params) (bindEnv fd.params vs) m3 (A + p.w) D'
            (entryOff p.w fd.params) (pc + 1 + nA + 3) := ⟨fr3, hvars3, hra3, hdreg3⟩
        have heW : p.w ≤ entryOff p.w fd.params := by unfold entryOff; rw [Nat.add_mul, Nat.one_mul]; omega
        have hsplit : funcCode (cxOf p ck B dA) fa (faddr fa fd.name) fd.dfn fd.params fd.body =
            (if ck then
              [Instr.j (.imm (faddr fa fd.name + 5)), .alu .sub (cxOf p ck B dA).r1 (.st (cxOf p ck B dA).fp) (.st 0),
               .hcond .hgeu (.st (cxOf p ck B dA).r1) (.imm (pkS p.w (entryOff p.w fd.params) fd.body % (cxOf p ck B dA).M)),
               .j (.imm (B + off_stack_overflow)), .halt]
             else []) ++ cS (cxOf p ck B dA) fa ⟨0, 0, fd.dfn⟩ (paramGam p.w (2 * p.w) fd.params) (faddr fa fd.name + prologueLen ck)
                (entryOff p.w fd.params) fd.body := rfl
        have hpllen : (if ck then
              [Instr.j (.imm (faddr fa fd.name + 5)), .alu .sub (cxOf p ck B dA).r1 (.st (cxOf p ck B dA).fp) (.st 0),
               .hcond .hgeu (.st (cxOf p ck B dA).r1) (.imm (pkS p.w (entryOff p.w fd.params) fd.body % (cxOf p ck B dA).M)),
               .j (.imm (B + off_stack_overflow)), .halt]
             else []).length = prologueLen ck := by cases ck <;> rfl
        rw [hsplit] at hplf hBf
        obtain ⟨_, hplb⟩ := hplf.append
        rw [hpllen] at hplb
        rw [List.length_append, hpllen] at hBf
        cases hexb : exec (256 ^ p.w) (8 * p.w) fns p.w f D' (entryOff p.w fd.params) (bindEnv fd.params vs) fd.body with
        | none => simp [hexb] at hcw
        | some rb =>
          obtain ⟨envb, trb, resb⟩ := rb
          simp only [hexb] at hcw
          have back : ∀ m4, Keep p.w m3 m4 (A + p.w) →
              Reach (sphinx p) ⟨pc + 1 + nA + 3, m4⟩ [] ⟨pc + 1 + nA + 3 + 1, m4.writeLE p.w p.w F⟩ ∧
              Keep p.w m (m4.writeLE p.w p.w F) (A + p.w) ∧
              (m4.writeLE p.w p.w F).readLE A p.w = m4.readLE (A + p.w - p.w) p.w := by
            intro m4 k34
            obtain ⟨r6, k24⟩ := call_leave (lo := A + p.w) hw fr2 hG (Nat.le_trans hA2 (Nat.le_add_right _ _)) c3 (k34.size.trans hsz3)
              (k34.fp.trans fr3.fp) (k34.ap.trans fr3.ap) (fun x hx => (k34.hi x hx).trans (hrd3 x (Nat.le_trans hA2 (Nat.le_trans (Nat.le_add_right _ _) hx))))
            refine ⟨r6, (k0.trans' (k2.mono (Nat.le_add_right _ _))).trans' k24, ?_⟩
            rw [Nat.add_sub_cancel, Mem.readLE_writeLE_disj _ _ _ _ _ _ (Or.inr (Nat.two_mul p.w ▸ hA2))]
          -- a defeat inside the callee, seen from the caller: its frame is untouched, `fp` is the callee's
          have convD : fd.dfn = true → ∀ st',
              Post p B (pc + 1 + nA + 3) ⟨0, 0, fd.dfn⟩ mdc (paramGam p.w (2 * p.w) fd.params) envb (A + p.w) D'
                (entryOff p.w fd.params) (faddr fa fd.name + prologueLen ck +
                  (cS (cxOf p ck B dA) fa ⟨0, 0, fd.dfn⟩ (paramGam p.w (2 * p.w) fd.params) (faddr fa fd.name + prologueLen ck)
                    (entryOff p.w fd.params) fd.body).length) m3 .defeat st' →
              ∃ a v, md = .stop a v ∧ st'.pc = v ∧ SInvD p md Γ env st'.mem F D o ra ∧ KeepD p.w m st'.mem (md.kb F p.w) := by
            intro hdfn st' hp
            obtain ⟨a, v, e, hpcv, hi, kd⟩ := hp
            obtain ⟨e', _⟩ := hmdT hdfn
            rw [e'] at e
            rw [hkb] at kd
            have hrdC : ∀ y, F - o ≤ y → st'.mem.rd y = m.rd y := fun y hy => by
              rw [(eF ()).1] at hy; rw [kd.hi y hy, hrdm3 y hy]
            have hszC : st'.mem.size = m.size := by rw [kd.size, hsz3, k2.size, k0.size]
            refine ⟨a, v, e, hpcv, hinv.toD.congr ho hszC hi.ap hrdC, ?_⟩
            rw [e]
            exact ⟨hszC, by rw [hi.ap, fr.ap], fun x hx => hrdC x (Nat.le_trans (Nat.sub_le _ _) hx)⟩
          have hsafeC : Safe p B dA (pc + 1 + nA + 3) ⟨0, 0, fd.dfn⟩ mdc false fd.dfn fns (paramGam p.w (2 * p.w) fd.params) envb
              (A + p.w) D' (entryOff p.w fd.params) (faddr fa fd.name + prologueLen ck +
                (cS (cxOf p ck B dA) fa ⟨0, 0, fd.dfn⟩ (paramGam p.w (2 * p.w) fd.params) (faddr fa fd.name + prologueLen ck)
                  (entryOff p.w fd.params) fd.body).length) m3 resb fd.body := by
            left
            cases hdfn : fd.dfn with
            | false =>
              refine ⟨hmy, ⟨fun h => (by cases h), fun h => (by cases h)⟩, plain_noTry _ _ (fok.plain fd hmem hdfn), Or.inl ?_⟩
              rw [hmdF hdfn]; exact HaltW.plain
            | true =>
              obtain ⟨e', v, hv⟩ := hmdT hdfn
              refine ⟨hmy, ⟨fun _ => ⟨v, by rw [e', hv]⟩, fun _ => Or.inl ⟨v, by rw [e', hv]⟩⟩, fok.dfnNoTry fd hmem hdfn, ?_⟩
              rcases hwld (by rw [hisd, hdfn]) with hh | ⟨hret, hdef⟩
              · left; rw [e']; exact hh
              · right
                refine ⟨rfl, fun st' hp => ?_⟩
                have tn := fun mm => terminal_never_halts lib mm
                cases resb with
                | norm => simp at hcw
                | brk => simp at hcw
                | cnt => simp at hcw
                | div0 => obtain ⟨pc', m'⟩ := st'; simp only [Post] at hp; subst hp; exact (tn m').2.2.2.1
                | ovf => obtain ⟨pc', m'⟩ := st'; simp only [Post] at hp; subst hp; exact (tn m').2.2.1
                | returned =>
                  simp only [Option.some.injEq, Prod.mk.injEq] at hcw
                  obtain ⟨pc', m4⟩ := st'
                  simp only [Post] at hp
                  obtain ⟨hpc', k34⟩ := hp
                  subst hpc'
                  rw [hkb] at k34
                  obtain ⟨r6, k6, _⟩ := back m4 k34
                  exact (r6.exec (hret hcw.2.1.symm _ k6 (fun v hv => by rw [← hcw.2.2] at hv; cases hv))).2
                | retv v =>
                  simp only [Option.some.injEq, Prod.mk.injEq] at hcw
                  obtain ⟨pc', m4⟩ := st'
                  simp only [Post] at hp
                  obtain ⟨hpc', k34, hv4⟩ := hp
                  subst hpc'
                  rw [hkb] at k34
                  obtain ⟨r6, k6, h6⟩ := back m4 k34
                  exact (r6.exec (hret hcw.2.1.symm _ k6 (fun v' hv' => by
                    rw [← hcw.2.2] at hv'; simp only [Option.some.injEq] at hv'; subst hv'; rw [h6]; exact hv4))).2
                | defeat =>
                  simp only [hdfn, if_true, Option.some.injEq, Prod.mk.injEq] at hcw
                  exact hdef hcw.2.1.symm st' (convD hdfn st' (by rw [hdfn]; exact hp))
          have hbody := ih (A + p.w) D' (pc + 1 + nA + 3) hend ⟨0, 0, fd.dfn⟩ ⟨Nat.pow_pos (by decide), Nat.pow_pos (by decide)⟩ mdc false fd.dfn fd.body (paramGam p.w (2 * p.w) fd.params)
            (bindEnv fd.params vs) (faddr fa fd.name + prologueLen ck) (entryOff p.w fd.params) m3 envb trb resb
            hplb (by omega) hinv3 (disj_paramGam p.w fd.params (2 * p.w) (fok.nodup fd hmem))
            (by rw [map_fst_paramGam]; exact fok.wf fd hmem) hfit heW hexb
            (by cases resb <;>
                  first | exact trivial | (simp only [Option.some.injEq, Prod.mk.injEq] at hcw; exact hfl _ hcw.2.1.symm))
            hsafeC
          have r03 : Reach (sphinx p) ⟨pc, m⟩ [] ⟨faddr fa fd.name + prologueLen ck, m3⟩ := by
            simpa [evl] using s0.trans (r2.trans (r3.trans hpro))
          cases resb with
          | norm => simp at hcw
          | brk => simp at hcw
          | cnt => simp at hcw
          | defeat =>
            cases hdfn : fd.dfn with
            | false => simp [hdfn] at hcw
            | true =>
              simp only [hdfn, if_true, Option.some.injEq, Prod.mk.injEq] at hcw
              obtain ⟨rfl, rfl, rfl⟩ := hcw
              obtain ⟨st', rb, hpost⟩ := hbody.2 (fun _ => hdfn)
              exact ⟨fun h => absurd h (by simp), fun h => absurd h (by simp), fun h => absurd h (by simp),
                fun _ => ⟨st', by simpa using r03.trans rb, convD hdfn st' hpost⟩⟩
          | div0 =>
            simp only [Option.some.injEq, Prod.mk.injEq] at hcw
            obtain ⟨rfl, rfl, rfl⟩ := hcw
            obtain ⟨st', rb, hpost⟩ := hbody.2 (by simp)
            obtain ⟨pc', m'⟩ := st'
            simp only [Post] at hpost
            subst hpost
            exact ⟨fun _ => ⟨m', by simpa using r03.trans rb⟩, fun h => absurd h (by simp), fun h => absurd h (by simp), fun h => absurd h (by simp)⟩
          | ovf =>
            simp only [Option.some.injEq, Prod.mk.injEq] at hcw
            obtain ⟨rfl, rfl, rfl⟩ := hcw
            obtain ⟨st', rb, hpost⟩ := hbody.2 (by simp)
            obtain ⟨pc', m'⟩ := st'
            simp only [Post] at hpost
            subst hpost
            exact ⟨fun h => absurd h (by simp), fun _ => ⟨m', by simpa using r03.trans rb⟩, fun h => absurd h (by simp), fun h => absurd h (by simp)⟩
          | returned =>
            simp only [Option.some.injEq, Prod.mk.injEq] at hcw
            obtain ⟨rfl, rfl, rfl⟩ := hcw
            obtain ⟨st', rb, hpost⟩ := hbody.2 (by simp)
            obtain ⟨pc', m4⟩ := st'
            simp only [Post] at hpost
            obtain ⟨hpc', k34⟩ := hpost
            subst hpc'
            rw [hkb] at k34
            obtain ⟨r6, k6, _⟩ := back m4 k34
            refine ⟨fun h => absurd h (by simp), fun h => absurd h (by simp), fun _ => ⟨_, ?_, k6, fun v hv => absurd hv (by simp)⟩, fun h => absurd h (by simp)⟩
            simpa using (r03.trans rb).trans r6
          | retv v =>
            simp only [Option.some.injEq, Prod.mk.injEq] at hcw
            obtain ⟨rfl, rfl, rfl⟩ := hcw
            obtain ⟨st', rb, hpost⟩ := hbody.2 (by simp)
            obtain ⟨pc', m4⟩ := st'
            simp only [Post] at hpost
            obtain ⟨hpc', k34, hv4⟩ := hpost
            subst hpc'
            rw [hkb] at k34
            obtain ⟨r6, k6, h6⟩ := back m4 k34
            refine ⟨fun h => absurd h (by simp), fun h => absurd h (by simp), fun _ => ⟨_, ?_, k6, fun v' hv' => ?_⟩, fun h => absurd h (by simp)⟩
            · simpa using (r03.trans rb).trans r6
            · simp only [Option.some.injEq] at hv'
              subst hv'
              rw [h6]; exact hv4

end

end HidVerif.Core
