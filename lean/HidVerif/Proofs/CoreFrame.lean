import HidVerif.Proofs.CoreStmt
/-!
# Core compiler proofs: function frames — parameters, pushed arguments, the stack check
-/
namespace HidVerif.Core
open HidVerif HidVerif.PSys HidVerif.Sphinx HidVerif.Gen

theorem map_fst_paramGam (w : Nat) : ∀ (params : List String) (o : Nat), (paramGam w o params).map Prod.fst = params := by
  intro params
  induction params with
  | nil => intro o; rfl
  | cons x xs ih => intro o; simp [paramGam, ih]

theorem look_paramGam_bounds (w : Nat) : ∀ (params : List String) (o : Nat) (y : String),
    params.contains y = true → o ≤ look (paramGam w o params) y ∧ look (paramGam w o params) y + w ≤ o + params.length * w := by
  intro params
  induction params with
  | nil => intro o y h; simp at h
  | cons x xs ih =>
    intro o y h
    simp only [paramGam, List.length_cons, Nat.add_mul, Nat.one_mul]
    by_cases hyx : y = x
    · subst hyx
      rw [look_cons_same]; omega
    · rw [look_cons_other _ _ _ _ hyx]
      have := ih (o + w) y (contains_of_cons_ne h hyx)
      omega

theorem disj_paramGam (w : Nat) : ∀ (params : List String) (o : Nat), params.Nodup → Disj w (paramGam w o params) := by
  intro params
  induction params with
  | nil => intro o _ x y hx; simp [paramGam] at hx
  | cons x xs ih =>
    intro o hnd y z hy hz hyz
    rw [map_fst_paramGam] at hy hz
    have hxs : xs.Nodup := (List.nodup_cons.1 hnd).2
    simp only [paramGam]
    by_cases hyx : y = x
    · subst hyx
      have hzy : z ≠ y := fun e => hyz e.symm
      have hz' := contains_of_cons_ne hz hzy
      rw [look_cons_same, look_cons_other _ _ _ _ hzy]
      exact Or.inl (look_paramGam_bounds w xs (o + w) z hz').1
    · have hy' := contains_of_cons_ne hy hyx
      rw [look_cons_other _ _ _ _ hyx]
      by_cases hzx : z = x
      · subst hzx
        rw [look_cons_same]
        exact Or.inr (look_paramGam_bounds w xs (o + w) y hy').1
      · have hz' := contains_of_cons_ne hz hzx
        rw [look_cons_other _ _ _ _ hzx]
        exact ih (o + w) hxs y z (by rw [map_fst_paramGam]; exact hy') (by rw [map_fst_paramGam]; exact hz') hyz

/-- consecutive frame words, the first at offset `o`, hold the values `vs` -/
def SlotsAt (w : Nat) (m : Mem) (F : Nat) : Nat → List Nat → Prop
  | _, [] => True
  | o, v :: vs => m.readLE (F - o) w = v ∧ SlotsAt w m F (o + w) vs

theorem SlotsAt_congr (w : Nat) (m m' : Mem) (F lo : Nat) (h : ∀ x, lo ≤ x → m'.rd x = m.rd x) :
    ∀ (vs : List Nat) (o : Nat), lo + (o + vs.length * w) ≤ F + w → SlotsAt w m F o vs → SlotsAt w m' F o vs := by
  intro vs
  induction vs with
  | nil => intro o _ _; trivial
  | cons v vs ih =>
    intro o ha hs
    simp only [List.length_cons, Nat.add_mul, Nat.one_mul] at ha
    refine ⟨?_, ih (o + w) (by omega) hs.2⟩
    rw [← hs.1]; exact Mem.readLE_congr _ _ _ _ (fun x h1 _ => h x (by omega))

theorem SlotsAt.keep {w : Nat} {m m' : Mem} {F a : Nat} (k : Keep w m m' a) :
    ∀ (vs : List Nat) (o : Nat), a + (o + vs.length * w) ≤ F + w → SlotsAt w m F o vs → SlotsAt w m' F o vs :=
  SlotsAt_congr w m m' F a k.hi

theorem vars_slots (w : Nat) (m : Mem) (F : Nat) : ∀ (params : List String) (vs : List Nat) (o : Nat),
    params.Nodup → vs.length = params.length → 2 * w ≤ o → SlotsAt w m F o vs →
    VarsOK w (paramGam w o params) (bindEnv params vs) m F (o + params.length * w - w) := by
  intro params
  induction params with
  | nil => intro vs o _ _ _ _ x hx; simp [paramGam] at hx
  | cons x xs ih =>
    intro vs o hnd hlen ho hs y hy
    cases vs with
    | nil => simp at hlen
    | cons v vs =>
      rw [map_fst_paramGam] at hy
      have hb := look_paramGam_bounds w (x :: xs) o y hy
      refine ⟨Nat.le_trans ho hb.1, Nat.le_sub_of_add_le hb.2, ?_⟩
      simp only [paramGam, bindEnv]
      by_cases hyx : y = x
      · subst hyx
        rw [look_cons_same, upd_same]; exact hs.1
      · rw [look_cons_other _ _ _ _ hyx, upd_other _ _ _ _ hyx]
        have hy' := contains_of_cons_ne hy hyx
        exact (ih vs (o + w) (List.nodup_cons.1 hnd).2 (by simpa using hlen) (Nat.le_trans ho (Nat.le_add_right _ _)) hs.2 y
          (by rw [map_fst_paramGam]; exact hy')).2.2

section
variable {p : Prog} {ck : Bool} {B : Nat} {dA : Nat}

theorem cArgs_ok (lib : Placed p B) (Γ : Gam) (env : Env) (F D : Nat) : ∀ (args : List E) (pc o : Nat) (m : Mem),
    PlacedAt p pc (cArgs (cxOf p ck B dA) Γ pc o args) →
    pc + (cArgs (cxOf p ck B dA) Γ pc o args).length ≤ B →
    Fr p m F D → VarsOK p.w Γ env m F o → args.all (boundE (Γ.map Prod.fst)) = true →
    pkArgs p.w o args ≤ D → p.w ≤ o →
    (∀ vs, evalArgs (256 ^ p.w) (8 * p.w) env args = some vs →
      ∃ m', Reach (sphinx p) ⟨pc, m⟩ [] ⟨pc + (cArgs (cxOf p ck B dA) Γ pc o args).length, m'⟩ ∧
        Keep p.w m m' (F - o) ∧ SlotsAt p.w m' F (o + p.w) vs) ∧
    (evalArgs (256 ^ p.w) (8 * p.w) env args = none → ck = true →
      ∃ m', Reach (sphinx p) ⟨pc, m⟩ [] ⟨B + off_division_by_zero, m'⟩) := by
  intro args
  induction args with
  | nil =>
    intro pc o m _ _ _ _ _ _ _
    refine ⟨fun vs hvs => ?_, fun h => nomatch h⟩
    cases Option.some.inj hvs
    exact ⟨m, Reach.refl, Keep.refl _ _ _, trivial⟩
  | cons e es ih =>
    intro pc o m hpl hB fr hvars hb hpk ho
    simp only [List.all_cons, Bool.and_eq_true] at hb
    simp only [pkArgs] at hpk
    simp only [cArgs] at hpl hB ⊢
    obtain ⟨hpl1, hpl2⟩ := hpl.append
    rw [List.length_append, ← Nat.add_assoc] at hB ⊢
    have hp := pushE_ok lib Γ env F D e pc o m hpl1 (Nat.le_trans (Nat.le_add_right _ _) hB) fr hvars hb.1 (Nat.le_trans (Nat.le_max_left _ _) hpk) ho
    have rest : ∀ m1, Keep p.w m m1 (F - o) → _ := fun m1 k1 =>
      ih (pc + (pushE (cxOf p ck B dA) Γ pc o e).length) (o + p.w) m1 hpl2 hB (fr.keep k1)
        (hvars.keep k1 (Nat.le_refl _) (Nat.le_add_right _ _)) hb.2 (Nat.le_trans (Nat.le_max_right _ _) hpk) (Nat.le_add_left _ _)
    refine ⟨fun vs hvs => ?_, fun hn hck => ?_⟩
    · obtain ⟨v, vs', hev, hes, rfl⟩ := evalArgs_cons_some.1 hvs
      obtain ⟨m1, r1, k1, hval⟩ := hp.1 v hev
      obtain ⟨m2, r2, k2, hsl⟩ := (rest m1 k1).1 vs' hes
      refine ⟨m2, reach_seq r1 r2, k1.trans' (k2.mono (Nat.sub_le_sub_left (Nat.le_add_right _ _) F)), ?_, hsl⟩
      rw [k2.read _ _ (Nat.le_refl _)]; exact hval
    · rcases evalArgs_cons_none.1 hn with hev | ⟨v, hev, hes⟩
      · exact hp.2 hev hck
      · obtain ⟨m1, r1, k1, _⟩ := hp.1 v hev
        obtain ⟨m2, r2⟩ := (rest m1 k1).2 hes hck
        exact ⟨m2, reach_seq r1 r2⟩

theorem SlotsAt_shift (w : Nat) (m : Mem) {F o G : Nat} (hG : G + o = F) : ∀ (vs : List Nat) (a : Nat),
    SlotsAt w m F (o + a) vs → SlotsAt w m G a vs := by
  intro vs
  induction vs with
  | nil => intro a _; trivial
  | cons v vs ih =>
    intro a h
    refine ⟨by rw [← h.1, ← hG, Nat.add_comm G o, Nat.add_sub_add_left], ih (a + w) (by rw [← Nat.add_assoc]; exact h.2)⟩

theorem pkArgs_ge (w : Nat) : ∀ (args : List E) (o : Nat), o + args.length * w ≤ pkArgs w o args := by
  intro args
  induction args with
  | nil => intro o; simp [pkArgs]
  | cons e es ih =>
    intro o
    have := ih (o + w)
    simp only [pkArgs, List.length_cons, Nat.add_mul, Nat.one_mul]
    omega

/-- the stack check at the head of a function passes when the frame peak fits below `fp`; otherwise (checked
builds have it) control reaches the `stack_overflow` stub -/
theorem prologue_ok (lib : Placed p B) (fa : FAddr) (base : Nat) (vd : Bool) (params : List String) (body : S)
    (m : Mem) (F D : Nat) (fr : Fr p m F D)
    (hpl : PlacedAt p base (funcCode (cxOf p ck B dA) fa base vd params body))
    (hB : base + (funcCode (cxOf p ck B dA) fa base vd params body).length ≤ B)
    (hpkM : pkS p.w (entryOff p.w params) body < 256 ^ p.w) :
    (pkS p.w (entryOff p.w params) body ≤ F - 5 * p.w →
      Reach (sphinx p) ⟨base, m⟩ [] ⟨base + prologueLen ck, m⟩) ∧
    (ck = true → F - 5 * p.w < pkS p.w (entryOff p.w params) body →
      ∃ m', Reach (sphinx p) ⟨base, m⟩ [] ⟨B + off_stack_overflow, m'⟩) := by
  have hw := lib.hw
  have hroom := fr.room; have hFM := fr.lt
  cases hck : ck with
  | false => exact ⟨fun _ => Reach.refl, fun h => nomatch h⟩
  | true =>
    subst hck
    unfold funcCode at hpl hB
    simp only [if_true] at hpl hB
    obtain ⟨c0, h⟩ := placed_cons hpl.append.1; obtain ⟨c1, h⟩ := placed_cons h; obtain ⟨c2, h⟩ := placed_cons h
    obtain ⟨c3, h⟩ := placed_cons h; obtain ⟨c4, _⟩ := placed_cons h
    simp only [List.length_append, List.length_cons, List.length_nil] at hB
    -- `j base+5; sub r1, [fp], [ap]; hgeu [r1], peak; j stack_overflow; h`
    have s0 := step_j (m := m) c0 (ev_imm (base + 5))
    rw [show (base + 5) % p.M = base + 5 from Nat.mod_eq_of_lt (code_lt lib (Nat.le_trans (Nat.add_le_add_left (Nat.le_add_right _ _) _) hB))] at s0
    have hap : evalArg p ⟨base + 1, m⟩ (.st 0) = some (5 * p.w) := by rw [fr.ev_st hw (by omega), fr.ap]
    have s1 := fr.step_alu hw c1 (fr.ev_fp hw) hap alu_sub (r1_ok p.w).2
    rw [show (F + 256 ^ p.w - 5 * p.w % 256 ^ p.w) % 256 ^ p.w = F - 5 * p.w from sub_mod_small (hroom ▸ Nat.le_add_right _ _) hFM] at s1
    have hr1 := fr.ev_wr (pc := base + 1 + 1) hw (d := (cxOf p true B dA).r1) (x := F - 5 * p.w)
      (r1_ok p.w) (Nat.lt_of_le_of_lt (Nat.sub_le _ _) hFM)
    generalize m.writeLE (cxOf p true B dA).r1 p.w (F - 5 * p.w) = m1 at s1 hr1
    have s2 := step_hcond (m := m1) c2 hr1 (ev_imm _)
    rw [show pkS p.w (entryOff p.w params) body % (cxOf p true B dA).M % p.M = pkS p.w (entryOff p.w params) body from by
      show pkS p.w (entryOff p.w params) body % 256 ^ p.w % 256 ^ p.w = _
      rw [Nat.mod_mod]; exact Nat.mod_eq_of_lt hpkM] at s2
    refine ⟨fun hfit => ?_, fun _ hsmall => ?_⟩
    · simp only [haltCond, ge_iff_le, hfit, decide_true, if_true] at s2
      exact Reach.jump_taken' (sys := sphinx p) s0 (Halts.next (sys := sphinx p) s1 (Halts.halt (sys := sphinx p) s2))
    · have hnot : ¬ (pkS p.w (entryOff p.w params) body ≤ F - 5 * p.w) := Nat.not_le_of_lt hsmall
      simp only [haltCond, ge_iff_le, hnot, decide_false, Bool.false_eq_true, if_false] at s2
      have s3 := step_j (m := m1) c3 (ev_imm (B + off_stack_overflow))
      rw [stub_lt lib (by decide)] at s3
      have r1 : Reach (sphinx p) ⟨base + 1, m⟩ [] ⟨B + off_stack_overflow, m1⟩ :=
        reach_seq (Reach.of_next (sys := sphinx p) s1) (reach_seq (Reach.of_next (sys := sphinx p) s2)
          (Reach.jump_taken (sys := sphinx p) s3 (step_halt (m := m1) c4)))
      -- the stub never halts, so the jump over the check is not taken
      have nh1 : ¬ Halts (sphinx p) ⟨base + 1, m⟩ := (r1.exec (terminal_never_halts lib m1).2.2.1).2
      exact ⟨m1, reach_seq (Reach.jump_not_taken (sys := sphinx p) s0 (fun hh => absurd hh nh1)) r1⟩
end

end HidVerif.Core
