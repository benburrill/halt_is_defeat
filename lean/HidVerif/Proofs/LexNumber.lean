import HidVerif.Proofs.LexInt
import HidVerif.Proofs.LexReaders
/-!
# Integer literals as layout pieces (C12 v, vi)

`readsAs_decimal_unicode`: a digit of the class `\d`, then such digits each optionally preceded by one underscore,
in front of anything that does not continue the literal, is exactly one `int` token with the positional value of
its digits; `readsAs_prefixed`: the same behind `0x`, `0o`, `0b`.  White space does not continue a literal.
-/
namespace HidVerif.Hid.Lex
open HidVerif.Gen

def asciiDigit (c : CP) : Prop := 48 ≤ c ∧ c ≤ 57

instance (c : CP) : Decidable (asciiDigit c) := by unfold asciiDigit; infer_instance

theorem digitVal_ascii (c : CP) (h : asciiDigit c) : digitVal c = some (c - 48) := by
  obtain ⟨h1, h2⟩ := h
  unfold digitVal digitRanges
  rw [List.find?_cons_of_pos (by simp [h1, h2])]
  simp

theorem underscore_not_digit : digitVal 95 = none ∧ hexVal 95 = none ∧ asciiIn 48 55 95 = none ∧ asciiIn 48 49 95 = none := by
  decide +kernel

theorem stops_of_space (isD : CP → Option Nat) (hsp : ∀ c, isSpace c = true → isD c = none) (rest : Line) (h : StartsSpace rest) :
    Stops isD rest := by
  rcases h with rfl | ⟨c, r, rfl, hc⟩
  · trivial
  · refine ⟨hsp c hc, fun h95 => ?_⟩
    rw [h95] at hc
    exact absurd hc (by decide +kernel)

theorem hexVal_space (c : Nat) (h : isSpace c = true) : hexVal c = none := by
  have := space_low c h
  unfold hexVal
  rw [digitVal_space c h]
  have h1 : ¬ (97 ≤ c ∧ c ≤ 102) := by omega
  have h2 : ¬ (65 ≤ c ∧ c ≤ 70) := by omega
  simp only [Bool.and_eq_true, decide_eq_true_eq]
  rw [if_neg h1, if_neg h2]

theorem asciiIn_space (hi : Nat) (hhi : hi ≤ 57) (c : Nat) (h : isSpace c = true) : asciiIn 48 hi c = none := by
  unfold asciiIn
  simp only [Bool.and_eq_true, decide_eq_true_eq]
  refine if_neg fun ⟨h1, h2⟩ => ?_
  have := digitVal_ascii c ⟨h1, Nat.le_trans h2 hhi⟩
  rw [digitVal_space c h] at this
  cases this

theorem not_base_letter (q : Nat) (h : q < 98 ∨ 122 < q) : q ≠ 120 ∧ q ≠ 111 ∧ q ≠ 98 := by omega

theorem renderTail_cons_head {x : Bool × Nat} {v : Nat} {tl : List (Bool × CP)} {rest r : Line} {q : Nat}
    (hx : digitVal x.2 = some v) (h : renderTail (x :: tl) ++ rest = q :: r) : q ≠ 120 ∧ q ≠ 111 ∧ q ≠ 98 := by
  obtain ⟨sep, c⟩ := x
  have hc := digitVal_range hx
  have hq : q = 95 ∨ q = c := by
    cases sep with
    | true => exact Or.inl (List.cons.inj h).1.symm
    | false => exact Or.inr (List.cons.inj h).1.symm
  exact not_base_letter q (by omega)

theorem tail_head (tl : List (Bool × CP)) (htl : ∀ x ∈ tl, asciiDigit x.2) (rest : Line) (hrest : StartsSpace rest) :
    ∀ q r, renderTail tl ++ rest = q :: r → q ≠ 120 ∧ q ≠ 111 ∧ q ≠ 98 := by
  intro q r h
  cases tl with
  | nil =>
    rcases hrest with rfl | ⟨c, r', rfl, hc⟩
    · cases h
    · obtain rfl : c = q := (List.cons.inj h).1
      have := space_low c hc
      exact not_base_letter c (by omega)
  | cons x tl => exact renderTail_cons_head (digitVal_ascii x.2 (htl x List.mem_cons_self)) h

/-- `hzero`: a lone `0` in front of a base letter and a digit of that base is the start of another literal -/
theorem readsAs_decimal_unicode (c0 v0 : Nat) (h0 : digitVal c0 = some v0) (tl : List (Bool × CP)) (val : CP → Nat)
    (hv : ∀ x ∈ tl, digitVal x.2 = some (val x.2)) (rest : Line) (hstop : Stops digitVal rest)
    (hzero : tl = [] → c0 = 48 → ∀ q r, rest = q :: r → q ≠ 120 ∧ q ≠ 111 ∧ q ≠ 98) :
    ReadsAs (c0 :: renderTail tl) (.int (ofDigits 10 (v0 :: tl.map (fun x => val x.2)))) rest := by
  have hr := digitVal_range h0
  refine .of_head (digit_not_space h0) (by omega) (readToken_of_digit h0 ?_)
  have hq : ∀ q r, c0 :: (renderTail tl ++ rest) = 48 :: q :: r → q ≠ 120 ∧ q ≠ 111 ∧ q ≠ 98 := by
    intro q r h
    injection h with h1 h2
    cases tl with
    | nil => exact hzero rfl h1 q r h2
    | cons x tl' => exact renderTail_cons_head (hv x List.mem_cons_self) h2
  show readInt (c0 :: (renderTail tl ++ rest)) = _
  rw [readInt_decimal _ hq, ← List.cons_append, digitsSep_spec digitVal underscore_not_digit.1 c0 v0 h0 tl val hv rest hstop]
  simp [Nat.add_comm]

theorem readsAs_decimal (c0 : CP) (tl : List (Bool × CP)) (h0 : asciiDigit c0) (htl : ∀ x ∈ tl, asciiDigit x.2) (rest : Line)
    (hstop : Stops digitVal rest)
    (hzero : tl = [] → c0 = 48 → ∀ q r, rest = q :: r → q ≠ 120 ∧ q ≠ 111 ∧ q ≠ 98) :
    ReadsAs (c0 :: renderTail tl) (.int (ofDigits 10 ((c0 - 48) :: tl.map (fun x => x.2 - 48)))) rest :=
  readsAs_decimal_unicode c0 (c0 - 48) (digitVal_ascii c0 h0) tl (fun c => c - 48) (fun x hx => digitVal_ascii x.2 (htl x hx))
    rest hstop hzero

theorem selfDelim_decimal (c0 : CP) (tl : List (Bool × CP)) (h0 : asciiDigit c0) (htl : ∀ x ∈ tl, asciiDigit x.2) :
    SelfDelim (c0 :: renderTail tl) (.int (ofDigits 10 ((c0 - 48) :: tl.map (fun x => x.2 - 48)))) :=
  .of_readsAs fun rest hr => readsAs_decimal c0 tl h0 htl rest (stops_of_space digitVal digitVal_space rest hr)
    fun ht _ q r e => tail_head tl htl rest hr q r (by rw [ht]; exact e)

theorem readsAs_prefixed (p : CP) (isD : CP → Option Nat) (base : Nat) (hus : isD 95 = none)
    (hread : ∀ r ds n, digitsSep isD r = (ds, n) → n ≠ 0 → readInt (48 :: p :: r) = some (ofDigits base ds, n + 2))
    (d0 : CP) (v0 : Nat) (h0 : isD d0 = some v0) (tl : List (Bool × CP)) (val : CP → Nat)
    (hv : ∀ x ∈ tl, isD x.2 = some (val x.2)) (rest : Line) (hstop : Stops isD rest) :
    ReadsAs (48 :: p :: d0 :: renderTail tl) (.int (ofDigits base (v0 :: tl.map (fun x => val x.2)))) rest := by
  have h48 : digitVal 48 = some 0 := by decide +kernel
  refine .of_head (digit_not_space h48) (by decide) (readToken_of_digit h48 ?_)
  have hspec := digitsSep_spec isD hus d0 v0 h0 tl val hv rest hstop
  show readInt (48 :: p :: (d0 :: renderTail tl ++ rest)) = _
  rw [hread _ _ _ hspec (by omega)]
  simp only [List.length_cons]
  congr 2
  omega

theorem selfDelim_prefixed (p : CP) (isD : CP → Option Nat) (base : Nat) (hus : isD 95 = none)
    (hsp : ∀ c, isSpace c = true → isD c = none)
    (hread : ∀ r ds n, digitsSep isD r = (ds, n) → n ≠ 0 → readInt (48 :: p :: r) = some (ofDigits base ds, n + 2))
    (d0 : CP) (v0 : Nat) (h0 : isD d0 = some v0) (tl : List (Bool × CP)) (val : CP → Nat)
    (hv : ∀ x ∈ tl, isD x.2 = some (val x.2)) :
    SelfDelim (48 :: p :: d0 :: renderTail tl) (.int (ofDigits base (v0 :: tl.map (fun x => val x.2)))) :=
  .of_readsAs fun rest hr => readsAs_prefixed p isD base hus hread d0 v0 h0 tl val hv rest (stops_of_space isD hsp rest hr)

theorem selfDelim_hex (d0 : CP) (v0 : Nat) (h0 : hexVal d0 = some v0) (tl : List (Bool × CP)) (val : CP → Nat)
    (hv : ∀ x ∈ tl, hexVal x.2 = some (val x.2)) :
    SelfDelim (48 :: 120 :: d0 :: renderTail tl) (.int (ofDigits 16 (v0 :: tl.map (fun x => val x.2)))) :=
  selfDelim_prefixed 120 hexVal 16 underscore_not_digit.2.1 hexVal_space readInt_hex d0 v0 h0 tl val hv

theorem selfDelim_oct (d0 : CP) (v0 : Nat) (h0 : asciiIn 48 55 d0 = some v0) (tl : List (Bool × CP)) (val : CP → Nat)
    (hv : ∀ x ∈ tl, asciiIn 48 55 x.2 = some (val x.2)) :
    SelfDelim (48 :: 111 :: d0 :: renderTail tl) (.int (ofDigits 8 (v0 :: tl.map (fun x => val x.2)))) :=
  selfDelim_prefixed 111 (asciiIn 48 55) 8 underscore_not_digit.2.2.1 (asciiIn_space 55 (by decide)) readInt_oct d0 v0 h0 tl val hv

theorem selfDelim_bin (d0 : CP) (v0 : Nat) (h0 : asciiIn 48 49 d0 = some v0) (tl : List (Bool × CP)) (val : CP → Nat)
    (hv : ∀ x ∈ tl, asciiIn 48 49 x.2 = some (val x.2)) :
    SelfDelim (48 :: 98 :: d0 :: renderTail tl) (.int (ofDigits 2 (v0 :: tl.map (fun x => val x.2)))) :=
  selfDelim_prefixed 98 (asciiIn 48 49) 2 underscore_not_digit.2.2.2 (asciiIn_space 49 (by decide)) readInt_bin d0 v0 h0 tl val hv

end HidVerif.Hid.Lex
