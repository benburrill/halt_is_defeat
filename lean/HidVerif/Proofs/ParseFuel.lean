import HidVerif.Proofs.ParserBasics
/-!
# The parser model never runs out of fuel (C10)

`Parse.parse` gives the recursive-descent functions `16 · (tokens + 4)` units of fuel, and every function
spends one unit per call.  That is enough: no function ever reports `PErr.fuel`, so `parse` returns a tree or a
located lexer/parser error.  The argument is a potential function: a call on `n` remaining tokens needs at most
`16·n + c` units, `c` depending on the function only.  A call that consumes no token goes to a function with a
smaller `c`; a consumed token frees 16 units; every loop iteration consumes a token.
-/
namespace HidVerif.Hid.Parse
open HidVerif.Hid.Lex HidVerif.Gen

def NF {α : Type} (F c : Nat) (p : P α) : Prop :=
  ∀ ts, 16 * ts.length + c ≤ F → p ts ≠ .err .fuel ∧ ∀ a rest, p ts = .val a rest → rest.length ≤ ts.length

def NF1 {α : Type} (F c : Nat) (p : P α) : Prop :=
  ∀ ts, 16 * ts.length + c ≤ F → p ts ≠ .err .fuel ∧ ∀ a rest, p ts = .val a rest → rest.length < ts.length

variable {α β : Type} {F c : Nat}

def Rok (d n : Nat) (r : Res β) : Prop := r ≠ .err .fuel ∧ ∀ a rest, r = .val a rest → rest.length + d ≤ n

theorem rok_err {d n : Nat} {e : PErr} (he : e ≠ .fuel) : Rok d n (.err e : Res β) :=
  ⟨fun h => by injection h with h; exact he h, nofun⟩
theorem rok_fail {d n : Nat} : Rok d n (.fail : Res β) := ⟨nofun, nofun⟩
theorem rok_val {d n : Nat} {a : β} {rest : List Lexeme} (h : rest.length + d ≤ n) : Rok d n (.val a rest) :=
  ⟨nofun, fun b r e => by injection e with _ h2; rw [← h2]; exact h⟩

/-- `NF` (`d = 0`) and `NF1` (`d = 1`) at once; `NF.d`, `NF1.d`, `NFd.nf`, `NFd.nf1` go between the forms -/
def NFd (d F c : Nat) (p : P α) : Prop := ∀ ts, 16 * ts.length + c ≤ F → Rok d ts.length (p ts)

theorem NF.d {p : P α} (h : NF F c p) : NFd 0 F c p := h
theorem NF1.d {p : P α} (h : NF1 F c p) : NFd 1 F c p := h
theorem NFd.nf {p : P α} (h : NFd 0 F c p) : NF F c p := h
theorem NFd.nf1 {p : P α} (h : NFd 1 F c p) : NF1 F c p := h

theorem NFd.mono {d c' : Nat} {p : P α} (h : NFd d F c p) (hc : c ≤ c') : NFd d F c' p :=
  fun ts hf => h ts (Nat.le_trans (Nat.add_le_add_left hc _) hf)

/-- a parser that got its fuel from a caller who spent one unit -/
theorem NFd.succ_le {d c' : Nat} {p : P α} (h : NFd d F c p) (hc : c + 1 ≤ c') : NFd d (F + 1) c' p :=
  fun ts hf => h ts (Nat.le_of_succ_le_succ (Nat.le_trans (Nat.add_le_add_left hc (16 * ts.length)) hf))

theorem NFd.zero {d : Nat} {p : P α} (hc : 1 ≤ c) : NFd d 0 c p :=
  fun _ h => absurd (Nat.le_trans hc (Nat.le_trans (Nat.le_add_left _ _) h)) (Nat.not_succ_le_zero 0)

theorem NF.mono {p : P α} {c' : Nat} (h : NF F c p) (hc : c ≤ c') : NF F c' p := (h.d.mono hc).nf
theorem NF1.mono {p : P α} {c' : Nat} (h : NF1 F c p) (hc : c ≤ c') : NF1 F c' p := (h.d.mono hc).nf1
theorem NF.succ_le {p : P α} {c' : Nat} (h : NF F c p) (hc : c + 1 ≤ c') : NF (F + 1) c' p := (h.d.succ_le hc).nf
theorem NF1.succ_le {p : P α} {c' : Nat} (h : NF1 F c p) (hc : c + 1 ≤ c') : NF1 (F + 1) c' p := (h.d.succ_le hc).nf1
theorem nf_zero {p : P α} (hc : 1 ≤ c) : NF 0 c p := (NFd.zero hc).nf
theorem nf1_zero {p : P α} (hc : 1 ≤ c) : NF1 0 c p := (NFd.zero hc).nf1

theorem NF1.nf {p : P α} (h : NF1 F c p) : NF F c p :=
  fun ts hf => ⟨(h ts hf).1, fun a rest e => Nat.le_of_lt ((h ts hf).2 a rest e)⟩

/-! ## the rules for the combinators -/
theorem fuel_left {n m d c' : Nat} (hl : m + d ≤ n) (hc : c' ≤ c + 16 * d) (hf : 16 * n + c ≤ F) : 16 * m + c' ≤ F := by
  omega

theorem length_left {r m n d e e' : Nat} (h1 : r + e' ≤ m) (h2 : m + d ≤ n) (he : e ≤ d + e') : r + e ≤ n := by
  omega

/-- after a parser that consumes `d` tokens the rest may need `16·d` units more than the whole is given -/
theorem NFd.alt {d e e' c' : Nat} {p : P α} {k : α → P β} {q : P β} (hp : NFd d F c p) (hc : c' ≤ c + 16 * d)
    (hk : ∀ a, NFd e' F c' (k a)) (he : e ≤ d + e') (hq : NFd e F c q) : NFd e F c (alt p k q) := by
  intro ts hf
  have h := hp ts hf
  rw [alt_eq]
  cases hpt : p ts <;> dsimp only
  · rename_i a mid
    have hl := h.2 a mid hpt
    have h2 := hk a mid (fuel_left hl hc hf)
    exact ⟨h2.1, fun b rest e => length_left (h2.2 b rest e) hl he⟩
  · exact hq ts hf
  · exact rok_err fun he => h.1 (he ▸ hpt)

theorem NFd.bind {d d' c' : Nat} {p : P α} {g : α → P β} (hp : NFd d F c p) (hc : c' ≤ c + 16 * d)
    (hg : ∀ a, NFd d' F c' (g a)) : NFd (d + d') F c (p >>= g) := by
  rw [bind_eq_alt]
  exact hp.alt hc hg (Nat.le_refl _) fun _ _ => rok_fail

theorem NFd.expect {d : Nat} (en : Ending) {p : P α} (hp : NFd d F c p) : NFd d F c (expect en p) := by
  intro ts hf
  have h := hp ts hf
  rw [expect_eq]
  cases hpt : p ts <;> dsimp only
  · exact rok_val (h.2 _ _ hpt)
  · exact rok_err nofun
  · exact rok_err fun he => h.1 (he ▸ hpt)

theorem nf_bind {p : P α} {g : α → P β} (hp : NF F c p) (hg : ∀ a, NF F c (g a)) : NF F c (p >>= g) :=
  (NFd.bind hp.d (Nat.le_refl _) fun a => (hg a).d).nf

theorem nf1_bind {p : P α} {g : α → P β} {c' : Nat} (hp : NF1 F c p) (hc : c' ≤ c + 16) (hg : ∀ a, NF F c' (g a)) :
    NF1 F c (p >>= g) :=
  (NFd.bind hp.d hc fun a => (hg a).d).nf1

theorem nf_bind1 {p : P α} {g : α → P β} (hp : NF F c p) (hg : ∀ a, NF1 F c (g a)) : NF1 F c (p >>= g) :=
  (NFd.bind hp.d (Nat.le_refl _) fun a => (hg a).d).nf1

theorem nf_expect (en : Ending) {p : P α} (hp : NF F c p) : NF F c (expect en p) := (NFd.expect en hp.d).nf

theorem nf1_expect (en : Ending) {p : P α} (hp : NF1 F c p) : NF1 F c (expect en p) := (NFd.expect en hp.d).nf1

theorem nf_alt {p : P α} {k : α → P β} {q : P β} {c' : Nat} (hp : NF1 F c p) (hc : c' ≤ c + 16)
    (hk : ∀ a, NF F c' (k a)) (hq : NF F c q) : NF F c (alt p k q) :=
  (NFd.alt hp.d hc (fun a => (hk a).d) (Nat.zero_le _) hq.d).nf

theorem nf_alt0 {p : P α} {k : α → P β} {q : P β} (hp : NF F c p)
    (hk : ∀ a, NF F c (k a)) (hq : NF F c q) : NF F c (alt p k q) :=
  (NFd.alt hp.d (Nat.le_refl _) (fun a => (hk a).d) (Nat.zero_le _) hq.d).nf

theorem nf_opt_bind {p : P α} {g : Option α → P β} {c' : Nat} (hp : NF1 F c p) (hc : c' ≤ c + 16)
    (hs : ∀ a, NF F c' (g (some a))) (hn : NF F c (g none)) : NF F c (opt p >>= g) := by
  rw [opt_bind]
  exact nf_alt hp hc hs hn

theorem nf_pure (a : α) : NF F c (pure a : P α) :=
  fun _ _ => rok_val (d := 0) (Nat.le_refl _)

theorem nf_fail : NF F c (fail : P α) := fun _ _ => rok_fail (d := 0)

theorem nf_throw {e : PErr} (he : e ≠ .fuel) : NF F c (throw e : P α) :=
  fun _ _ => rok_err (d := 0) he

theorem nf_expected (en : Ending) : NF F c (expected en : P α) := fun _ _ => rok_err (d := 0) nofun

theorem nf_opt {p : P α} (hp : NF F c p) : NF F c (opt p) := by
  intro ts hf
  have h := hp ts hf
  rw [opt_eq]
  cases hpt : p ts <;> dsimp only
  · rename_i a mid
    exact rok_val (d := 0) (h.2 a mid hpt)
  · exact rok_val (d := 0) (Nat.le_refl _)
  · exact rok_err (d := 0) fun he => h.1 (he ▸ hpt)

theorem nf_ite {b : Bool} {p q : P α} (hp : NF F c p) (hq : NF F c q) : NF F c (if b then p else q) := by
  cases b
  · exact hq
  · exact hp

theorem nf1_tokenIf (en : Ending) (f : Lexeme → Option α) : NF1 F c (tokenIf en f) := by
  intro ts _
  unfold tokenIf
  cases ts with
  | nil => exact rok_fail (d := 1)
  | cons l rest =>
    dsimp only
    split
    · split
      · exact rok_err (d := 1) nofun
      · exact rok_val (d := 1) (Nat.le_refl _)
    · exact rok_fail (d := 1)

theorem nf1_exact (en : Ending) (name : String) : NF1 F c (exact en name) := nf1_tokenIf en _

theorem nf_psDataTypeOpt (en : Ending) : NF F c (psDataTypeOpt en) := by
  rw [psDataTypeOpt_eq]
  refine nf_alt (c' := c) (nf1_tokenIf en _) (Nat.le_add_right _ _) (fun x => ?_) (nf_pure _)
  split
  · exact nf_pure _
  · exact nf_pure _

theorem nf1_psIdent (en : Ending) (allowed : Flavor → Bool) : NF1 F c (psIdent en allowed) := by
  unfold psIdent
  refine nf1_bind (nf1_tokenIf en _) (Nat.le_add_right _ _) (fun a => ?_)
  obtain ⟨n, fl, l⟩ := a
  dsimp only
  split
  · exact nf_pure _
  · exact nf_throw nofun

/-! ## functions written with explicit matches -/
theorem Rok.mono {d e n n' : Nat} {r : Res β} (h : Rok d n r) (hn : n + e ≤ n' + d) : Rok e n' r :=
  ⟨h.1, fun a rest hv => by have := h.2 a rest hv; omega⟩
theorem opt_stage {p : P α} (hp : NF1 F c p) {ts : List Lexeme} (hf : 16 * ts.length + c ≤ F) :
    (∀ e, opt p ts = .err e → e ≠ .fuel) ∧ (∀ a rest, opt p ts = .val (some a) rest → rest.length < ts.length) := by
  have h := hp ts hf
  rw [opt_eq]
  cases hpt : p ts <;> dsimp only
  · rename_i a mid
    exact ⟨nofun, fun b rest h' => by injection h' with _ h2; rw [← h2]; exact h.2 a mid hpt⟩
  · exact ⟨nofun, nofun⟩
  · exact ⟨fun e' h' he => h.1 (by injection h' with h'; rw [hpt, h', he]), nofun⟩

/-! ## parsers that do not fail -/
def NoFail (p : P α) : Prop := ∀ ts, p ts ≠ .fail

theorem nofail_expect (en : Ending) {p : P α} : NoFail (expect en p) := by
  intro ts h
  rw [expect_eq] at h
  split at h
  · cases h
  · rename_i r hr
    exact hr h

theorem nofail_pure (a : α) : NoFail (pure a : P α) := fun ts h => by cases h

theorem nofail_bind {p : P α} {g : α → P β} (hp : NoFail p) (hg : ∀ a, NoFail (g a)) : NoFail (p >>= g) := by
  intro ts h
  rw [bind_eq] at h
  cases hpt : p ts with
  | val a mid => rw [hpt] at h; exact hg a mid h
  | fail => exact hp ts hpt
  | err e => rw [hpt] at h; cases h

theorem opt_ne_fail (p : P α) (ts : List Lexeme) : opt p ts ≠ .fail := by
  rw [opt_eq]
  cases p ts <;> nofun

section grammar
variable (en : Ending)

/-! ## expressions -/

/-- A constant exceeds the constant of every function called before a token is consumed: `psPostfix` 9,
`commaRest`, `psBinRest` 10 (these consume first), `psFuncCall` 13 < `psExpr0` 14 < … < `psExpr3` 17 < levels 3 to 8
at 18 to 23 < `psExpr` 24 < `commaList` 25.  After a consumed token 16 more may be used: every `c' := …` below is at
most the constant at hand plus 16, and more than the constant of what is called next. -/
structure EIH (f : Nat) : Prop where
  cList : ∀ ctx, NF f 25 (commaList en f ctx)
  cRest : ∀ ctx acc, NF f 10 (commaRest en f ctx acc)
  fCall : ∀ ctx, NF f 13 (psFuncCall en f ctx)
  x0 : ∀ ctx, NF f 14 (psExpr0 en f ctx)
  post : ∀ ctx e, NF f 9 (psPostfix en f ctx e)
  x1 : ∀ ctx, NF f 15 (psExpr1 en f ctx)
  x2 : ∀ ctx, NF f 16 (psExpr2 en f ctx)
  x3 : ∀ ctx, NF f 17 (psExpr3 en f ctx)
  bLevel : ∀ ctx L, L ≤ 8 → NF f (18 + (L - 3)) (psBinLevel en f ctx L)
  bRest : ∀ ctx L e, L ≤ 8 → NF f 10 (psBinRest en f ctx L e)
  x : ∀ ctx, NF f 24 (psExpr en f ctx)

theorem eih_zero : EIH en 0 :=
  ⟨fun _ => nf_zero (by decide), fun _ _ => nf_zero (by decide), fun _ => nf_zero (by decide), fun _ => nf_zero (by decide),
   fun _ _ => nf_zero (by decide), fun _ => nf_zero (by decide), fun _ => nf_zero (by decide), fun _ => nf_zero (by decide),
   fun _ _ _ => nf_zero (by omega), fun _ _ _ _ => nf_zero (by decide), fun _ => nf_zero (by decide)⟩

theorem nf_tok {F c : Nat} {nm : String} {q : P β} (hq : NF F c q) : NF F c (expect en (exact en nm) >>= fun _ => q) :=
  nf_bind (nf_expect en (nf1_exact en nm).nf) fun _ => hq

theorem eih_succ (f : Nat) (ih : EIH en f) : EIH en (f + 1) := by
  have hx : ∀ ctx, NF (f + 1) 25 (psExpr en f ctx) := fun ctx => (ih.x ctx).succ_le (by decide)
  have hbl : ∀ ctx L, L ≤ 8 → NF (f + 1) (19 + (L - 3)) (psBinLevel en f ctx L) := fun ctx L hL =>
    (ih.bLevel ctx L hL).succ_le (by omega)
  constructor
  case cList =>
    intro ctx
    rw [commaList]
    refine nf_bind (nf_opt (hx ctx)) (fun first => ?_)
    cases first with
    | none => exact nf_pure _
    | some e => exact (ih.cRest ctx [e]).succ_le (by decide)
  case cRest =>
    intro ctx acc
    rw [commaRest]
    refine nf_opt_bind (c' := 25) (nf1_exact en _) (by decide) (fun a => ?_) (nf_pure _)
    exact nf_bind (nf_expect en (hx ctx)) (fun e => (ih.cRest ctx (e :: acc)).succ_le (by decide))
  case fCall =>
    intro ctx
    rw [psFuncCall]
    split
    · exact nf_fail
    · refine (nf1_bind (c' := 29) (nf1_psIdent en _) (by decide) (fun a => ?_)).nf
      obtain ⟨n, fl, l⟩ := a
      dsimp only
      refine (nf1_bind (c' := 45) (nf1_exact en _) (by decide) (fun _ => ?_)).nf
      exact nf_bind ((ih.cList ctx).succ_le (by decide)) (fun args => nf_tok en (nf_pure _))
  case x0 =>
    intro ctx
    rw [psExpr0_eq]
    refine nf_alt (c' := 30) (nf1_exact en _) (by decide) (fun _ => ?_) ?_
    · exact nf_bind (nf_expect en ((hx ctx).mono (by decide))) (fun e => nf_tok en (nf_pure _))
    refine nf_alt (c' := 14) (nf1_tokenIf en _) (by decide) (fun lit => nf_pure _) ?_
    refine nf_alt (c' := 30) (nf1_exact en _) (by decide) (fun _ => ?_) ?_
    · exact nf_bind ((ih.cList ctx).succ_le (by decide)) (fun items => nf_tok en (nf_pure _))
    refine nf_alt0 ((ih.fCall ctx).succ_le (by decide)) (fun c => nf_pure _) ?_
    refine (nf1_bind (c' := 14) (nf1_psIdent en _) (by decide) (fun a => ?_)).nf
    obtain ⟨n, fl, l⟩ := a
    exact nf_pure _
  case post =>
    intro ctx e
    rw [psPostfix]
    refine nf_opt_bind (c' := 25) (nf1_exact en _) (by decide) (fun _ => ?_) ?_
    · exact nf_bind (nf_expect en (nf1_tokenIf en _).nf) (fun _ => (ih.post ctx _).succ_le (by decide))
    · refine nf_opt_bind (c' := 25) (nf1_exact en _) (by decide) (fun _ => ?_) (nf_pure _)
      exact nf_bind (nf_expect en (hx ctx)) (fun i => nf_tok en ((ih.post ctx _).succ_le (by decide)))
  case x1 =>
    intro ctx
    rw [psExpr1]
    exact nf_bind ((ih.x0 ctx).succ_le (by decide)) (fun e => (ih.post ctx e).succ_le (by decide))
  case x2 =>
    intro ctx
    rw [psExpr2]
    refine nf_opt_bind (c' := 32) (nf1_tokenIf en _) (by decide) (fun a => ?_) ((ih.x1 ctx).succ_le (by decide))
    obtain ⟨cls, l⟩ := a
    exact nf_bind (nf_expect en ((ih.x2 ctx).succ_le (by decide))) (fun e => nf_pure _)
  case x3 =>
    intro ctx
    rw [psExpr3]
    refine nf_bind ((ih.x2 ctx).succ_le (by decide)) (fun e => ?_)
    refine nf_opt_bind (c' := 17) (nf1_exact en _) (by decide) (fun _ => ?_) (nf_pure _)
    refine nf_bind (nf_psDataTypeOpt en) (fun t? => ?_)
    cases t? with
    | none => exact nf_expected en
    | some t => exact nf_opt_bind (c' := 17) (nf1_exact en _) (by decide) (fun _ => nf_tok en (nf_pure _)) (nf_pure _)
  case bLevel =>
    intro ctx L hL
    rw [psBinLevel]
    split
    · exact (ih.x3 ctx).succ_le (by omega)
    · refine nf_bind ((ih.bLevel ctx (L - 1) (by omega)).succ_le (by omega)) (fun e => ?_)
      exact (ih.bRest ctx L e hL).succ_le (by omega)
  case bRest =>
    intro ctx L e hL
    rw [psBinRest]
    refine nf_opt_bind (c' := 26) (nf1_tokenIf en _) (by decide) (fun a => ?_) (nf_pure _)
    obtain ⟨cls, l⟩ := a
    exact nf_bind (nf_expect en ((hbl ctx (L - 1) (by omega)).mono (by omega))) (fun r => (ih.bRest ctx L _ hL).succ_le (by decide))
  case x =>
    -- the left operand, then `??` with a second parse from the start
    intro ctx ts hf
    have h8 := (hbl ctx 8 (by decide)).mono (c' := 24) (by decide) ts hf
    show Rok 0 ts.length (psExpr en (f + 1) ctx ts)
    rw [psExpr]
    dsimp only
    split
    · rename_i e heq; exact rok_err (fun he => h8.1 (by rw [heq, he]))
    · exact rok_fail
    · rename_i left rest heq
      have hl := h8.2 left rest heq
      split
      · rename_i e heq2; exact rok_err ((opt_stage (F := f + 1) (c := 24) (nf1_exact en _) (fuel_left (d := 0) hl (by decide) hf)).1 e heq2)
      · exact rok_fail
      · exact rok_val hl
      · split
        · exact rok_err nofun
        · refine NF.d (c := 24) ?_ ts hf
          have hn := nf_expect en ((hbl (ctxSpec ctx) 8 (by decide)).mono (c' := 24) (by decide))
          exact nf_bind hn (fun l => nf_tok en (nf_bind hn (fun r => nf_pure _)))

theorem eih : ∀ f, EIH en f
  | 0 => eih_zero en
  | f + 1 => eih_succ en f (eih f)

theorem nf_psExpr (f ctx : Nat) : NF f 24 (psExpr en f ctx) := (eih en f).x ctx

/-! ## statements (they pass their fuel on unchanged) -/
theorem nf_psDecl : NF F c (psDecl en) := by
  unfold psDecl
  have hid : ∀ k : List CP × Flavor × Lexeme → P (List CP × Ty × Bool), (∀ a, NF F c (k a)) →
      NF F c (expect en (psIdent en onlyPlain) >>= k) := fun k hk => nf_bind (nf_expect en (nf1_psIdent en _).nf) hk
  refine nf_bind (nf_opt (nf1_exact en _).nf) (fun cst => ?_)
  refine nf_bind (nf_psDataTypeOpt en) (fun dt => ?_)
  cases dt with
  | none => dsimp only; split; exact nf_expected en; exact nf_fail
  | some t =>
    dsimp only
    refine nf_bind (nf_opt (nf1_exact en _).nf) (fun br => ?_)
    cases br with
    | some _ =>
      dsimp only
      refine nf_tok en (hid _ fun a => ?_)
      obtain ⟨n, fl, l⟩ := a
      exact nf_pure _
    | none =>
      dsimp only
      refine hid _ fun a => ?_
      obtain ⟨n, fl, l⟩ := a
      exact nf_pure _

theorem nf_psVdecl (f ctx : Nat) : NF f 24 (psVdecl en f ctx) := by
  unfold psVdecl
  refine nf_bind (nf_psDecl en) (fun a => ?_)
  obtain ⟨n, t, cc⟩ := a
  dsimp only
  refine nf_bind (nf_opt (nf1_exact en _).nf) (fun br => ?_)
  cases br with
  | some l =>
    dsimp only
    split
    · exact nf_throw nofun
    · exact nf_bind (nf_expect en (nf_psExpr en f ctx)) (fun len => nf_tok en (nf_pure _))
  | none =>
    dsimp only
    exact nf_tok en (nf_bind (nf_expect en (nf_psExpr en f ctx)) (fun init => nf_pure _))

theorem nf_psAssignment (f ctx : Nat) : NF f 24 (psAssignment en f ctx) := by
  unfold psAssignment
  refine nf_bind (nf_psExpr en f ctx) (fun a => ?_)
  split
  · exact nf_fail
  · refine nf_bind (nf_opt (nf1_exact en _).nf) (fun eq => ?_)
    cases eq with
    | some _ => exact nf_bind (nf_expect en (nf_psExpr en f ctx)) (fun r => nf_pure _)
    | none =>
      dsimp only
      refine nf_bind (nf1_tokenIf en _).nf (fun x => ?_)
      obtain ⟨cls, l⟩ := x
      exact nf_bind (nf_expect en (nf_psExpr en f ctx)) (fun r => nf_pure _)

theorem nf_psPlainStmt (f ctx : Nat) (allowDecl : Bool) : NF f 24 (psPlainStmt en f ctx allowDecl) := by
  rw [psPlainStmt_eq]
  refine nf_alt0 (nf_psAssignment en f ctx) (fun s => nf_pure _) ?_
  exact nf_alt0 (nf_psExpr en f ctx) (fun e => nf_pure _) (nf_ite (nf_psVdecl en f ctx) nf_fail)

theorem nf_loopOnly (ctx : Nat) (s : PStmt) (l : Lexeme) : NF F c (loopOnly ctx s l) := by
  intro ts _
  unfold loopOnly
  split
  · exact rok_err (d := 0) nofun
  · exact rok_val (d := 0) (Nat.le_refl _)

theorem nf_psStmt (f ctx : Nat) : NF f 24 (psStmt en f ctx) := by
  rw [psStmt_eq]
  refine nf_alt (c' := 24) (nf1_exact en _) (by decide) (nf_loopOnly ctx _) ?_
  refine nf_alt (c' := 24) (nf1_exact en _) (by decide) (nf_loopOnly ctx _) ?_
  refine nf_alt (c' := 24) (nf1_exact en _) (by decide) (fun _ => ?_) (nf_psPlainStmt en f ctx true)
  exact nf_bind (nf_opt (nf_psExpr en f ctx)) (fun e => nf_pure _)

/-! ## blocks -/
structure BIH (f : Nat) : Prop where
  cb : ∀ ctx, NF1 f 12 (psCodeBlock en f ctx)
  bi : ∀ ctx acc pre, NF f 26 (psBlockItems en f ctx acc pre)
  bl : ∀ ctx, NF1 f 13 (psBlock en f ctx)

theorem bih_zero : BIH en 0 := ⟨fun _ => nf1_zero (by decide), fun _ _ _ => nf_zero (by decide), fun _ => nf1_zero (by decide)⟩

theorem bih_succ (f : Nat) (ih : BIH en f) : BIH en (f + 1) := by
  have hx : ∀ ctx, NF (f + 1) 25 (psExpr en f ctx) := fun ctx => (nf_psExpr en f ctx).succ_le (by decide)
  have hbl : ∀ ctx, NF1 (f + 1) 14 (psBlock en f ctx) := fun ctx => (ih.bl ctx).succ_le (by decide)
  have hloop : ∀ ctx acc pre, NF (f + 1) 42 (psBlockItems en f ctx acc pre) := fun ctx acc pre => (ih.bi ctx acc pre).succ_le (by decide)
  refine ⟨?_, ?_, ?_⟩
  · intro ctx
    rw [psCodeBlock]
    exact nf1_bind (c' := 28) (nf1_exact en _) (by decide) (fun _ => (ih.bi ctx [] false).succ_le (by decide))
  · intro ctx acc pre
    rw [psBlockItems]
    refine nf_bind (nf_opt (nf1_exact en _).nf) (fun close => ?_)
    cases close with
    | some _ => exact nf_pure _
    | none =>
      dsimp only
      refine nf_bind (nf_opt ((nf_psStmt en f ctx).succ_le (by decide))) (fun st => ?_)
      cases st with
      | some s =>
        dsimp only
        exact (nf1_bind (c' := 42) (nf1_expect en (nf1_exact en _)) (by decide) (fun _ => hloop ctx _ _)).nf
      | none =>
        dsimp only
        refine nf_opt_bind (c' := 42) (nf1_exact en _) (by decide) (fun _ => hloop ctx _ _) ?_
        exact (nf1_bind (c' := 42) (nf1_expect en ((hbl ctx).mono (by decide))) (by decide) (fun b => hloop ctx _ _)).nf
  · -- psBlock: every branch but a plain code block starts with a keyword, and what follows it may use 16 units more
    intro ctx ts hf
    show Rok 1 ts.length (psBlock en (f + 1) ctx ts)
    rw [psBlock]
    dsimp only
    have hkw := opt_stage (F := f + 1) (c := 13) (nf1_tokenIf en (fun l => match l.tok with
        | .enum "BlockToken.IF" => some "if" | .enum "BlockToken.WHILE" => some "while" | .enum "BlockToken.FOR" => some "for"
        | .enum "BlockToken.TRY" => some "try" | .enum "BlockToken.PREEMPT" => some "preempt" | _ => none)) hf
    have after : ∀ {kw : String} {rest : List Lexeme} {p : P PStmt}, opt (tokenIf en _) ts = .val (some kw) rest →
        NF (f + 1) 29 p → Rok 1 ts.length (p rest) := fun heq hp =>
      (hp.d _ (fuel_left (d := 1) (hkw.2 _ _ heq) (by decide) hf)).mono (hkw.2 _ _ heq)
    have hb : ∀ c', NF (f + 1) 29 (expect en (psBlock en f c')) := fun c' => nf_expect en (((hbl c').nf).mono (by decide))
    have hxe : ∀ c', NF (f + 1) 29 (expect en (psExpr en f c')) := fun c' => nf_expect en ((hx c').mono (by decide))
    split
    · rename_i e heq; exact rok_err (hkw.1 e heq)
    · exact rok_fail
    · exact ((ih.cb ctx).succ_le (by decide)).d ts hf
    · rename_i rest heq
      refine after heq ?_
      refine nf_tok en (nf_bind (hxe ctx) (fun c => nf_tok en (nf_bind (hb _) (fun body => ?_))))
      refine nf_bind (nf_opt (nf1_exact en _).nf) (fun el => ?_)
      cases el with
      | some _ => exact nf_bind (hb _) (fun e => nf_pure _)
      | none => exact nf_pure _
    · rename_i rest heq
      refine after heq ?_
      exact nf_tok en (nf_bind (hxe ctx) (fun c => nf_tok en (nf_bind (hb _) (fun body => nf_pure _))))
    · rename_i rest heq
      refine after heq ?_
      have hps : ∀ b, NF (f + 1) 29 (opt (psPlainStmt en f ctx b)) := fun b => nf_opt ((nf_psPlainStmt en f ctx b).succ_le (by decide))
      refine nf_tok en (nf_bind (hps true) (fun init => nf_tok en ?_))
      refine nf_bind (nf_opt ((hx ctx).mono (by decide))) (fun c => nf_tok en (nf_bind (hps false) (fun cont => ?_)))
      exact nf_tok en (nf_bind (hb _) (fun body => nf_pure _))
    · rename_i rest heq
      split
      · exact rok_err nofun
      · refine after heq ?_
        exact nf_bind (hb _) (fun body => nf_bind (nf_expect en (nf1_tokenIf en _).nf) (fun k => nf_bind (hb _) (fun h => nf_pure _)))
    · rename_i rest _ _ _ _ heq
      split
      · exact rok_err nofun
      · refine after heq ?_
        exact nf_bind (hb _) (fun body => nf_pure _)

theorem bih : ∀ f, BIH en f
  | 0 => bih_zero en
  | f + 1 => bih_succ en f (bih f)

/-! ## functions and programs -/
theorem nf_more : ∀ (f : Nat) (acc : List (List CP × Ty × Bool)), NF f 1 (psParams.more en f acc)
  | 0, _ => nf_zero (by decide)
  | f + 1, acc => by
    rw [psParams.more]
    refine nf_opt_bind (c' := 17) (nf1_exact en _) (by decide) (fun _ => ?_) (nf_pure _)
    exact nf_bind (nf_expect en (nf_psDecl en)) (fun q => (nf_more f (q :: acc)).succ_le (by decide))

theorem nf_psParams : ∀ (f : Nat), NF f 2 (psParams en f)
  | 0 => nf_zero (by decide)
  | f + 1 => by
    rw [psParams]
    refine nf_bind (nf_opt (nf_psDecl en)) (fun first => ?_)
    cases first with
    | none => exact nf_pure _
    | some p => exact (nf_more en f [p]).succ_le (by decide)

theorem nf1_psFunc (f : Nat) : NF1 f 12 (psFunc en f) := by
  unfold psFunc
  refine nf1_bind (c' := 12) (nf1_tokenIf en _) (by decide) (fun a => ?_)
  obtain ⟨rt, l⟩ := a
  dsimp only
  refine nf_bind (nf1_tokenIf en _).nf (fun a => ?_)
  obtain ⟨n, fl⟩ := a
  dsimp only
  refine nf_bind (nf1_exact en _).nf (fun _ => ?_)
  refine nf_bind ((nf_psParams en f).mono (by decide)) (fun ps => ?_)
  refine nf_tok en ?_
  exact nf_bind (nf_expect en ((bih en f).cb _).nf) (fun body => nf_pure _)

/-- the program loop: `k` bounds the number of top-level items, each of which consumes a token -/
theorem psProgram_ok (fuel : Nat) : ∀ (k : Nat) (vs : List PStmt) (fs : List PFunc) (ts : List Lexeme),
    ts.length < k → 16 * ts.length + 24 ≤ fuel →
    psProgram en fuel k vs fs ts ≠ .err .fuel ∧ psProgram en fuel k vs fs ts ≠ .fail := by
  intro k
  induction k with
  | zero => intro vs fs ts h; omega
  | succ k ih =>
    intro vs fs ts hk hf
    rw [psProgram]
    cases ts with
    | nil => exact ⟨nofun, nofun⟩
    | cons t rest0 =>
      dsimp only
      have next : ∀ {rest : List Lexeme}, rest.length < (t :: rest0).length → rest.length < k ∧ 16 * rest.length + 24 ≤ fuel :=
        fun hl => ⟨Nat.lt_of_lt_of_le hl (Nat.le_of_lt_succ hk), fuel_left (d := 1) hl (by decide) hf⟩
      have hfunc := opt_stage (F := fuel) (c := 24) ((nf1_psFunc en fuel).mono (by decide)) hf
      split
      · rename_i e heq; exact ⟨fun h => by injection h with h; exact hfunc.1 e heq h, nofun⟩
      · rename_i heq; exact absurd heq (opt_ne_fail _ _)
      · rename_i fn rest heq
        have hl := next (hfunc.2 fn rest heq)
        exact ih vs (fn :: fs) rest hl.1 hl.2
      · have hsemi := opt_stage (F := fuel) (c := 24) (nf1_exact en "SepToken.SEMICOLON") hf
        split
        · rename_i e heq; exact ⟨fun h => by injection h with h; exact hsemi.1 e heq h, nofun⟩
        · rename_i heq; exact absurd heq (opt_ne_fail _ _)
        · rename_i l rest heq
          have hl := next (hsemi.2 l rest heq)
          exact ih vs fs rest hl.1 hl.2
        · have hv : NF1 fuel 24 (do let v ← expect en (psVdecl en fuel 0)
                                     let _ ← expect en (exact en "SepToken.SEMICOLON")
                                     pure v) :=
            nf_bind1 (nf_expect en (nf_psVdecl en fuel 0)) (fun v => nf1_bind (c' := 24) (nf1_expect en (nf1_exact en _)) (by decide) (fun _ => nf_pure _))
          have hvr := hv (t :: rest0) hf
          split
          · rename_i v rest heq
            have hl := next (hvr.2 v rest heq)
            exact ih (v :: vs) fs rest hl.1 hl.2
          · rename_i heq
            exact absurd heq (nofail_bind (nofail_expect en) (fun v => nofail_bind (nofail_expect en) (fun _ => nofail_pure _)) _)
          · rename_i e heq; exact ⟨fun h => by injection h with h; exact hvr.1 (by rw [heq, h]), nofun⟩

/-- **the parser model never runs out of fuel**: whatever the source, `parse` returns a tree or a located
lexer/parser error -/
theorem parse_never_out_of_fuel (src : List Line) : parse src ≠ .error .fuel := by
  unfold parse
  rcases hl : lex src with ⟨toks, ending⟩
  dsimp only
  split
  · intro h; cases h
  · have h := psProgram_ok ending (16 * (toks.length + 4)) (toks.length + 2) [] [] toks (by omega) (by omega)
    split
    · intro h'; cases h'
    · rename_i heq; exact absurd heq h.2
    · rename_i e heq; intro h'; injection h' with h'; exact h.1 (by rw [heq, h'])

end grammar

end HidVerif.Hid.Parse
