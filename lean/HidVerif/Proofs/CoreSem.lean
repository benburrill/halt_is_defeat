import HidVerif.Compiler.Core
/-!
# The source semantics: equations and static conditions

The equations of `evalE`, `evalB`, `evalArgs` and `exec` by constructor, and what the static conditions
say about the results of `exec`.
-/
namespace HidVerif.Core
open HidVerif HidVerif.Sphinx HidVerif.Gen

theorem evalE_bin_some {M n : Nat} {env : Env} {op : AOp} {l r : E} {v : Nat} :
    evalE M n env (.bin op l r) = some v ↔
      ∃ a b, evalE M n env l = some a ∧ evalE M n env r = some b ∧ aluOp M n (aluOf op) a b = some v := by
  simp only [evalE, Option.bind_eq_bind]
  cases evalE M n env l <;> cases evalE M n env r <;> simp

theorem evalE_bin_none {M n : Nat} {env : Env} {op : AOp} {l r : E} :
    evalE M n env (.bin op l r) = none ↔
      evalE M n env l = none ∨ ∃ a, evalE M n env l = some a ∧
        (evalE M n env r = none ∨ ∃ b, evalE M n env r = some b ∧ aluOp M n (aluOf op) a b = none) := by
  simp only [evalE, Option.bind_eq_bind]
  cases evalE M n env l <;> cases evalE M n env r <;> simp

theorem evalE_neg_some {M n : Nat} {env : Env} {e : E} {v : Nat} :
    evalE M n env (.neg e) = some v ↔ ∃ a, evalE M n env e = some a ∧ aluOp M n (aluOf .sub) 0 a = some v := by
  simp only [evalE, Option.bind_eq_bind]
  cases evalE M n env e <;> simp [aluOf]

theorem evalE_neg_none {M n : Nat} {env : Env} {e : E} :
    evalE M n env (.neg e) = none ↔ evalE M n env e = none := by
  simp only [evalE, Option.bind_eq_bind]
  cases evalE M n env e <;> simp [aluOp]

theorem evalB_cmp_some {M n : Nat} {env : Env} {op : COp} {l r : E} {bv : Bool} :
    evalB M n env (.cmp op l r) = some bv ↔
      ∃ a b, evalE M n env l = some a ∧ evalE M n env r = some b ∧ haltCond M (cmpHalt op) a b = bv := by
  simp only [evalB, Option.bind_eq_bind]
  cases evalE M n env l <;> cases evalE M n env r <;> simp

theorem evalB_cmp_none {M n : Nat} {env : Env} {op : COp} {l r : E} :
    evalB M n env (.cmp op l r) = none ↔
      evalE M n env l = none ∨ ∃ a, evalE M n env l = some a ∧ evalE M n env r = none := by
  simp only [evalB, Option.bind_eq_bind]
  cases evalE M n env l <;> cases evalE M n env r <;> simp

theorem evalB_not_some {M n : Nat} {env : Env} {b : Core.B} {bv : Bool} :
    evalB M n env (.not b) = some bv ↔ evalB M n env b = some (!bv) := by
  simp only [evalB, Option.bind_eq_bind]
  cases evalB M n env b with
  | none => simp
  | some x => cases x <;> cases bv <;> simp

theorem evalB_not_none {M n : Nat} {env : Env} {b : Core.B} :
    evalB M n env (.not b) = none ↔ evalB M n env b = none := by
  simp only [evalB, Option.bind_eq_bind]
  cases evalB M n env b <;> simp

theorem evalB_or_some {M n : Nat} {env : Env} {l r : Core.B} {bv : Bool} :
    evalB M n env (.or l r) = some bv ↔
      (evalB M n env l = some true ∧ bv = true) ∨ (evalB M n env l = some false ∧ evalB M n env r = some bv) := by
  simp only [evalB, Option.bind_eq_bind]
  cases evalB M n env l with
  | none => simp
  | some x => cases x <;> simp [eq_comm]

theorem evalB_or_none {M n : Nat} {env : Env} {l r : Core.B} :
    evalB M n env (.or l r) = none ↔
      evalB M n env l = none ∨ (evalB M n env l = some false ∧ evalB M n env r = none) := by
  simp only [evalB, Option.bind_eq_bind]
  cases evalB M n env l with
  | none => simp
  | some x => cases x <;> simp

theorem evalB_and {M n : Nat} {env : Env} {l r : Core.B} :
    evalB M n env (.and l r) = evalB M n env (.not (.or (.not l) (.not r))) := by
  simp only [evalB, Option.bind_eq_bind]
  cases evalB M n env l with
  | none => rfl
  | some a => cases a <;> cases evalB M n env r <;> simp

theorem evalArgs_cons_some {M n : Nat} {env : Env} {e : E} {es : List E} {vs : List Nat} :
    evalArgs M n env (e :: es) = some vs ↔
      ∃ v vs', evalE M n env e = some v ∧ evalArgs M n env es = some vs' ∧ vs = v :: vs' := by
  simp only [evalArgs, Option.bind_eq_bind]
  cases evalE M n env e <;> cases evalArgs M n env es <;> simp [eq_comm]

theorem evalArgs_cons_none {M n : Nat} {env : Env} {e : E} {es : List E} :
    evalArgs M n env (e :: es) = none ↔
      evalE M n env e = none ∨ ∃ v, evalE M n env e = some v ∧ evalArgs M n env es = none := by
  simp only [evalArgs, Option.bind_eq_bind]
  cases evalE M n env e <;> cases evalArgs M n env es <;> simp

theorem evalArgs_length {M n : Nat} {env : Env} : ∀ {args : List E} {vs : List Nat},
    evalArgs M n env args = some vs → vs.length = args.length := by
  intro args
  induction args with
  | nil => intro vs h; cases Option.some.inj h; rfl
  | cons e es ih =>
    intro vs h
    obtain ⟨v, vs', _, hes, rfl⟩ := evalArgs_cons_some.1 h
    simp [ih hes]

section equations
variable (M n : Nat) (fns : List FDecl) (w f room o : Nat) (env : Env)

theorem exec_zero (s : S) : exec M n fns w 0 room o env s = none := by cases s <;> rfl

theorem exec_nil : exec M n fns w (f + 1) room o env .nil = some (env, [], .norm) := rfl
theorem exec_ret : exec M n fns w (f + 1) room o env .ret = some (env, [], .returned) := rfl
theorem exec_brk : exec M n fns w (f + 1) room o env .brk = some (env, [], .brk) := rfl
theorem exec_cnt : exec M n fns w (f + 1) room o env .cnt = some (env, [], .cnt) := rfl
theorem exec_defeat (k : S) : exec M n fns w (f + 1) room o env (.defeat k) = some (env, [], .defeat) := rfl

theorem exec_retE (e : E) : exec M n fns w (f + 1) room o env (.retE e) =
    match evalE M n env e with
    | none => some (env, [], .div0)
    | some v => some (env, [], .retv v) := rfl

theorem exec_decl (x : String) (e : E) (k : S) : exec M n fns w (f + 1) room o env (.decl x e k) =
    match evalE M n env e with
    | none => some (env, [], .div0)
    | some v => exec M n fns w f room (o + w) (upd env x v) k := rfl

theorem exec_assign (x : String) (e : E) (k : S) : exec M n fns w (f + 1) room o env (.assign x e k) =
    match evalE M n env e with
    | none => some (env, [], .div0)
    | some v => exec M n fns w f room o (upd env x v) k := rfl

theorem exec_write (e : E) (k : S) : exec M n fns w (f + 1) room o env (.write e k) = (
    match evalE M n env e with
    | none => some (env, [], .div0)
    | some v => do
      let (env', tr, r) ← exec M n fns w f room o env k
      pure (env', outs (decimalW M v) ++ tr, r)) := rfl

theorem exec_writeln_some (e : E) (k : S) : exec M n fns w (f + 1) room o env (.writeln (some e) k) = (
    match evalE M n env e with
    | none => some (env, [], .div0)
    | some v => do
      let (env', tr, r) ← exec M n fns w f room o env k
      pure (env', outs (decimalW M v) ++ [Ev.out 10] ++ tr, r)) := rfl

theorem exec_writeln_none (k : S) : exec M n fns w (f + 1) room o env (.writeln none k) = (do
    let (env', tr, r) ← exec M n fns w f room o env k
    pure (env', Ev.out 10 :: tr, r)) := rfl

theorem exec_putc (c : Nat) (k : S) : exec M n fns w (f + 1) room o env (.putc c k) = (do
    let (env', tr, r) ← exec M n fns w f room o env k
    pure (env', Ev.out (c % M % 256) :: tr, r)) := rfl

theorem exec_block (b k : S) : exec M n fns w (f + 1) room o env (.block b k) = (do
    let (env1, tr1, r1) ← exec M n fns w f room o env b
    if r1 = .norm then
      let (env2, tr2, r2) ← exec M n fns w f room o env1 k
      pure (env2, tr1 ++ tr2, r2)
    else pure (env1, tr1, r1)) := rfl

theorem exec_ifb (c : B) (t e k : S) : exec M n fns w (f + 1) room o env (.ifb c t e k) = (
    match evalB M n env c with
    | none => some (env, [], .div0)
    | some cv => do
      let (env1, tr1, r1) ← exec M n fns w f room o env (if cv then t else e)
      if r1 = .norm then
        let (env2, tr2, r2) ← exec M n fns w f room o env1 k
        pure (env2, tr1 ++ tr2, r2)
      else pure (env1, tr1, r1)) := rfl

theorem exec_loop (c : B) (body cont k : S) : exec M n fns w (f + 1) room o env (.loop c body cont k) = (
    match evalB M n env c with
    | none => some (env, [], .div0)
    | some false => exec M n fns w f room o env k
    | some true => do
      let (env1, tr1, r1) ← exec M n fns w f room o env body
      if r1 = .norm ∨ r1 = .cnt then
        let (env2, tr2, r2) ← exec M n fns w f room o env1 cont
        if r2 = .norm then
          let (env3, tr3, r3) ← exec M n fns w f room o env2 (.loop c body cont k)
          pure (env3, tr1 ++ tr2 ++ tr3, r3)
        else pure (env2, tr1 ++ tr2, r2)
      else if r1 = .brk then
        let (env3, tr3, r3) ← exec M n fns w f room o env1 k
        pure (env3, tr1 ++ tr3, r3)
      else pure (env1, tr1, r1)) := rfl

theorem exec_defeatIf (c : B) (k : S) : exec M n fns w (f + 1) room o env (.defeatIf c k) =
    match evalB M n env c with
    | none => some (env, [], .div0)
    | some true => some (env, [], .defeat)
    | some false => exec M n fns w f room o env k := rfl

theorem exec_tryUndo (body handler k : S) : exec M n fns w (f + 1) room o env (.tryUndo body handler k) = (do
    let (env1, tr1, r1) ← exec M n fns w f room o env body
    if r1 = .defeat then
      let (env2, tr2, r2) ← exec M n fns w f room o env handler
      if r2 = .norm then
        let (env3, tr3, r3) ← exec M n fns w f room o env2 k
        pure (env3, tr2 ++ tr3, r3)
      else pure (env2, tr2, r2)
    else if r1 = .norm then
      let (env3, tr3, r3) ← exec M n fns w f room o env1 k
      pure (env3, tr1 ++ tr3, r3)
    else pure (env1, tr1, r1)) := rfl

theorem exec_tryStop (body handler k : S) : exec M n fns w (f + 1) room o env (.tryStop body handler k) = (do
    let (env1, tr1, r1) ← exec M n fns w f room (o + w) (upd env "%ap" (5 * w)) body
    if r1 = .defeat then
      if env1 "%ap" ≠ 5 * w then none else
      let (env2, tr2, r2) ← exec M n fns w f room o env1 handler
      if r2 = .norm then
        let (env3, tr3, r3) ← exec M n fns w f room o env2 k
        pure (env3, tr1 ++ tr2 ++ tr3, r3)
      else pure (env2, tr1 ++ tr2, r2)
    else if r1 = .norm then
      let (env3, tr3, r3) ← exec M n fns w f room o env1 k
      pure (env3, tr1 ++ tr3, r3)
    else pure (env1, tr1, r1)) := rfl

theorem exec_callS (g : String) (args : List E) (k : S) : exec M n fns w (f + 1) room o env (.callS g args k) = (
    match callWith M n fns w (exec M n fns w f) room o env g args with
    | none => none
    | some (trc, some r, _) => some (env, trc, r)
    | some (trc, none, _) => do
      let (env', tr, r) ← exec M n fns w f room o env k
      pure (env', trc ++ tr, r)) := rfl

theorem exec_declCall (x g : String) (args : List E) (k : S) : exec M n fns w (f + 1) room o env (.declCall x g args k) = (
    match callWith M n fns w (exec M n fns w f) room o env g args with
    | none => none
    | some (trc, some r, _) => some (env, trc, r)
    | some (_, none, none) => none
    | some (trc, none, some v) => do
      let (env', tr, r) ← exec M n fns w f room (o + w) (upd env x v) k
      pure (env', trc ++ tr, r)) := rfl

theorem exec_assignCall (x g : String) (args : List E) (k : S) : exec M n fns w (f + 1) room o env (.assignCall x g args k) = (
    match callWith M n fns w (exec M n fns w f) room o env g args with
    | none => none
    | some (trc, some r, _) => some (env, trc, r)
    | some (_, none, none) => none
    | some (trc, none, some v) => do
      let (env', tr, r) ← exec M n fns w f room o (upd env x v) k
      pure (env', trc ++ tr, r)) := rfl
end equations

theorem bind_some {α β : Type} {x : Option α} {F : α → Option β} {r : β} (h : (x >>= F) = some r) :
    ∃ a, x = some a ∧ F a = some r := by
  cases x with
  | none => cases h
  | some a => exact ⟨a, rfl, h⟩

theorem bind_of_some {α β : Type} {x : Option α} {F : α → Option β} {a : α} (hx : x = some a) : (x >>= F) = F a := by
  rw [hx]; rfl

/-- what the static conditions say about the result of a run: a list that cannot fall off its end never
finishes normally; outside loops a list without stray `break`/`continue` never ends in one; at the level of
the you function a defeat never escapes -/
abbrev ResOK (st : Bool) (fns : List FDecl) (s : S) (res : Res) : Prop :=
  (noFall s = true → res ≠ .norm) ∧ (escFree false s = true → res ≠ .brk ∧ res ≠ .cnt) ∧
  (youLevel st fns s = true → res ≠ .defeat)

theorem ResOK.fault {st : Bool} {fns : List FDecl} {s : S} {res : Res} (h : res = .div0 ∨ res = .ovf) : ResOK st fns s res := by
  rcases h with h | h <;> subst h <;> exact ⟨fun _ => by decide, fun _ => by decide, fun _ => by decide⟩

/-- the only ways a call can end the run: a fault, or a defeat inside a defeat function -/
theorem callWith_fault {M n : Nat} {fns : List FDecl} {w : Nat} {ex : (room o : Nat) → Env → S → Option (Env × List Ev × Res)}
    {room o : Nat} {env : Env} {g : String} {args : List E} {trc : List Ev} {r : Res} {rv : Option Nat}
    (h : callWith M n fns w ex room o env g args = some (trc, some r, rv)) :
    r = .div0 ∨ r = .ovf ∨ (r = .defeat ∧ isDfn fns g = true) := by
  unfold callWith at h
  split at h
  · cases h; exact Or.inl rfl
  · split at h
    · cases h
    · rename_i fd hfind
      split at h
      · cases h
      · split at h
        · cases h; exact Or.inr (Or.inl rfl)
        · split at h
          · cases h
          · cases h
          · cases h; exact Or.inl rfl
          · cases h; exact Or.inr (Or.inl rfl)
          · split at h
            · rename_i hd
              cases h; exact Or.inr (Or.inr ⟨rfl, by simp only [isDfn, hfind, hd]⟩)
            · cases h
          · cases h

section
variable {st : Bool} {fns : List FDecl}

theorem ResOK.seq {X k W : S} {r1 r : Res} (h1 : ResOK st fns X r1) (hk : r1 = .norm → ResOK st fns k r) (hr : r1 ≠ .norm → r = r1)
    (hnf : noFall W = true → noFall X = true ∨ noFall k = true)
    (hesc : escFree false W = true → escFree false X = true ∧ escFree false k = true)
    (hy : youLevel st fns W = true → (youLevel st fns X = true ∨ r1 ≠ .defeat) ∧ youLevel st fns k = true) : ResOK st fns W r := by
  by_cases hn : r1 = .norm
  · refine ⟨fun h => (hnf h).elim (fun hX => absurd hn (h1.1 hX)) (hk hn).1, fun h => (hk hn).2.1 (hesc h).2, fun h => (hk hn).2.2 (hy h).2⟩
  · rw [hr hn]
    exact ⟨fun _ => hn, fun h => h1.2.1 (hesc h).1, fun h => (hy h).1.elim h1.2.2 id⟩

theorem ResOK.call {W k : S} {g : String} {r : Res} (hnf : noFall W = noFall k) (hesc : escFree false W = escFree false k)
    (hy : youLevel st fns W = (!isDfn fns g && youLevel st fns k))
    (h : r = .div0 ∨ r = .ovf ∨ (r = .defeat ∧ isDfn fns g = true) ∨ ResOK st fns k r) : ResOK st fns W r := by
  rcases h with h | h | ⟨h, hd⟩ | h
  · exact .fault (Or.inl h)
  · exact .fault (Or.inr h)
  · subst h
    refine ⟨fun _ => by decide, fun _ => by decide, fun h => ?_⟩
    rw [hy, hd] at h; cases h
  · refine ⟨fun h' => h.1 (hnf ▸ h'), fun h' => h.2.1 (hesc ▸ h'), fun h' => h.2.2 ?_⟩
    rw [hy, Bool.and_eq_true] at h'; exact h'.2
end

theorem plain_sub (st : Bool) (fns : List FDecl) (s : S) : plain fns s = true → noTry s = true ∧ youLevel st fns s = true := by
  induction s with
  | nil | ret | brk | cnt | retE e => intro; exact ⟨rfl, rfl⟩
  | decl x e k ih | assign x e k ih | write e k ih | writeln e k ih | putc c k ih => exact ih
  | block b k ihb ihk =>
    intro h
    simp only [plain, Bool.and_eq_true] at h
    simp only [noTry, youLevel, Bool.and_eq_true]
    exact ⟨⟨(ihb h.1).1, (ihk h.2).1⟩, (ihb h.1).2, (ihk h.2).2⟩
  | ifb c t e k iht ihe ihk | loop c t e k iht ihe ihk =>
    intro h
    simp only [plain, Bool.and_eq_true] at h
    simp only [noTry, youLevel, Bool.and_eq_true]
    exact ⟨⟨⟨(iht h.1.1).1, (ihe h.1.2).1⟩, (ihk h.2).1⟩, ⟨(iht h.1.1).2, (ihe h.1.2).2⟩, (ihk h.2).2⟩
  | defeat k _ | defeatIf c k _ | tryUndo b h k _ _ _ | tryStop b h k _ _ _ => intro h; cases h
  | callS g args k ih | declCall x g args k ih | assignCall x g args k ih =>
    intro h
    simp only [plain, Bool.and_eq_true] at h
    simp only [noTry, youLevel, Bool.and_eq_true]
    exact ⟨(ih h.2).1, h.1, (ih h.2).2⟩

theorem plain_noTry (fns : List FDecl) (s : S) : plain fns s = true → noTry s = true :=
  fun h => (plain_sub false fns s h).1

theorem plain_youLevel (st : Bool) (fns : List FDecl) (s : S) : plain fns s = true → youLevel st fns s = true :=
  fun h => (plain_sub st fns s h).2

theorem exec_res (M n : Nat) (fns : List FDecl) (w : Nat) (st : Bool) : ∀ (fuel : Nat) (s : S) (room o : Nat) (env env' : Env)
    (tr : List Ev) (res : Res), exec M n fns w fuel room o env s = some (env', tr, res) → ResOK st fns s res := by
  intro fuel
  induction fuel with
  | zero => intro s room o env env' tr res h; rw [exec_zero] at h; cases h
  | succ f ih =>
    intro s room o env env' tr res hex
    cases s with
    | nil => cases hex; exact ⟨fun h => (by cases h), fun _ => by decide, fun _ => by decide⟩
    | ret => cases hex; exact ⟨fun _ => by decide, fun _ => by decide, fun _ => by decide⟩
    | brk => cases hex; exact ⟨fun _ => by decide, fun h => (by cases h), fun _ => by decide⟩
    | cnt => cases hex; exact ⟨fun _ => by decide, fun h => (by cases h), fun _ => by decide⟩
    | defeat k => cases hex; exact ⟨fun _ => by decide, fun _ => by decide, fun h => (by cases h)⟩
    | retE e =>
      rw [exec_retE] at hex
      split at hex
      · cases hex; exact .fault (Or.inl rfl)
      · cases hex; exact ⟨fun _ => nofun, fun _ => ⟨nofun, nofun⟩, fun _ => nofun⟩
    | decl x e k =>
      rw [exec_decl] at hex
      split at hex
      · cases hex; exact .fault (Or.inl rfl)
      · exact ih k _ _ _ _ _ _ hex
    | assign x e k =>
      rw [exec_assign] at hex
      split at hex
      · cases hex; exact .fault (Or.inl rfl)
      · exact ih k _ _ _ _ _ _ hex
    | write e k =>
      rw [exec_write] at hex
      split at hex
      · cases hex; exact .fault (Or.inl rfl)
      · obtain ⟨⟨e1, t1, r1⟩, hk, hex⟩ := bind_some hex
        cases hex; exact ih k _ _ _ _ _ _ hk
    | writeln e k =>
      cases e with
      | none =>
        rw [exec_writeln_none] at hex
        obtain ⟨⟨e1, t1, r1⟩, hk, hex⟩ := bind_some hex
        cases hex; exact ih k _ _ _ _ _ _ hk
      | some e =>
        rw [exec_writeln_some] at hex
        split at hex
        · cases hex; exact .fault (Or.inl rfl)
        · obtain ⟨⟨e1, t1, r1⟩, hk, hex⟩ := bind_some hex
          cases hex; exact ih k _ _ _ _ _ _ hk
    | putc c k =>
      rw [exec_putc] at hex
      obtain ⟨⟨e1, t1, r1⟩, hk, hex⟩ := bind_some hex
      cases hex; exact ih k _ _ _ _ _ _ hk
    | defeatIf c k =>
      rw [exec_defeatIf] at hex
      split at hex
      · cases hex; exact .fault (Or.inl rfl)
      · cases hex; exact ⟨fun _ => by decide, fun _ => by decide, fun h => (by cases h)⟩
      · exact ⟨(ih k _ _ _ _ _ _ hex).1, (ih k _ _ _ _ _ _ hex).2.1, fun h => (by cases h)⟩
    | block b k =>
      rw [exec_block] at hex
      obtain ⟨⟨e1, t1, r1⟩, hb, hex⟩ := bind_some hex
      refine ResOK.seq (X := b) (k := k) (r1 := r1) (ih b _ _ _ _ _ _ hb) (fun hn => ?_) (fun hn => ?_)
        (fun h => by simpa only [noFall, Bool.or_eq_true] using h)
        (fun h => by simpa only [escFree, Bool.and_eq_true] using h)
        (fun h => by simp only [youLevel, Bool.and_eq_true] at h; exact ⟨Or.inl h.1, h.2⟩)
      · subst hn
        obtain ⟨⟨e2, t2, r2⟩, hk, hex⟩ := bind_some hex
        cases hex; exact ih k _ _ _ _ _ _ hk
      · dsimp only at hex; rw [if_neg hn] at hex; cases hex; rfl
    | ifb c t e k =>
      rw [exec_ifb] at hex
      split at hex
      · cases hex; exact .fault (Or.inl rfl)
      · rename_i cv _
        obtain ⟨⟨e1, t1, r1⟩, hb, hex⟩ := bind_some hex
        refine ResOK.seq (X := if cv = true then t else e) (k := k) (r1 := r1) (ih _ _ _ _ _ _ _ hb) (fun hn => ?_) (fun hn => ?_)
          (fun h => ?_) (fun h => ?_) (fun h => ?_)
        · subst hn
          obtain ⟨⟨e2, t2, r2⟩, hk, hex⟩ := bind_some hex
          cases hex; exact ih k _ _ _ _ _ _ hk
        · dsimp only at hex; rw [if_neg hn] at hex; cases hex; rfl
        · simp only [noFall, Bool.or_eq_true, Bool.and_eq_true] at h
          exact h.imp (fun h => by cases cv <;> simp only [h.1, h.2, if_true, if_false, Bool.false_eq_true]) id
        · simp only [escFree, Bool.and_eq_true] at h
          exact ⟨by cases cv <;> simp only [h.1.1, h.1.2, if_true, if_false, Bool.false_eq_true], h.2⟩
        · simp only [youLevel, Bool.and_eq_true] at h
          exact ⟨Or.inl (by cases cv <;> simp only [h.1.1, h.1.2, if_true, if_false, Bool.false_eq_true]), h.2⟩
    | loop c body cont k =>
      have hW : ResOK st fns k res → ResOK st fns (.loop c body cont k) res := fun h =>
        ⟨h.1, fun h' => h.2.1 (by simp only [escFree, Bool.and_eq_true] at h'; exact h'.2),
          fun h' => h.2.2 (by simp only [youLevel, Bool.and_eq_true] at h'; exact h'.2)⟩
      rw [exec_loop] at hex
      split at hex
      · cases hex; exact .fault (Or.inl rfl)
      · exact hW (ih k _ _ _ _ _ _ hex)
      · obtain ⟨⟨e1, t1, r1⟩, hb, hex⟩ := bind_some hex
        dsimp only at hex
        by_cases hn : r1 = .norm ∨ r1 = .cnt
        · rw [if_pos hn] at hex
          obtain ⟨⟨e2, t2, r2⟩, hc, hex⟩ := bind_some hex
          refine ResOK.seq (X := cont) (k := .loop c body cont k) (r1 := r2) (ih cont _ _ _ _ _ _ hc) (fun hn2 => ?_) (fun hn2 => ?_)
            Or.inr (fun h => ⟨by simp only [escFree, Bool.and_eq_true] at h; exact h.1.2, h⟩)
            (fun h => ⟨Or.inl (by simp only [youLevel, Bool.and_eq_true] at h; exact h.1.2), h⟩)
          · subst hn2
            obtain ⟨⟨e3, t3, r3⟩, hl, hex⟩ := bind_some hex
            cases hex; exact ih _ _ _ _ _ _ _ hl
          · dsimp only at hex; rw [if_neg hn2] at hex; cases hex; rfl
        · rw [if_neg hn] at hex
          by_cases hbk : r1 = .brk
          · rw [if_pos hbk] at hex
            obtain ⟨⟨e3, t3, r3⟩, hk, hex⟩ := bind_some hex
            cases hex; exact hW (ih k _ _ _ _ _ _ hk)
          · rw [if_neg hbk] at hex
            cases hex
            refine ⟨fun _ h => hn (Or.inl h), fun _ => ⟨hbk, fun h => hn (Or.inr h)⟩, fun h => (ih body _ _ _ _ _ _ hb).2.2 ?_⟩
            simp only [youLevel, Bool.and_eq_true] at h; exact h.1.1
    | tryUndo body handler k =>
      rw [exec_tryUndo] at hex
      obtain ⟨⟨e1, t1, r1⟩, hb, hex⟩ := bind_some hex
      dsimp only at hex
      by_cases hd : r1 = .defeat
      · rw [if_pos hd] at hex
        obtain ⟨⟨e2, t2, r2⟩, hh, hex⟩ := bind_some hex
        refine ResOK.seq (X := handler) (k := k) (r1 := r2) (ih handler _ _ _ _ _ _ hh) (fun hn => ?_) (fun hn => ?_)
          (fun h => ?_) (fun h => ?_) (fun h => ?_)
        · subst hn
          obtain ⟨⟨e3, t3, r3⟩, hk, hex⟩ := bind_some hex
          cases hex; exact ih k _ _ _ _ _ _ hk
        · dsimp only at hex; rw [if_neg hn] at hex; cases hex; rfl
        · simp only [noFall, Bool.or_eq_true, Bool.and_eq_true] at h; exact h.imp And.right id
        · simp only [escFree, Bool.and_eq_true] at h; exact ⟨h.1.2, h.2⟩
        · simp only [youLevel, Bool.and_eq_true] at h; exact ⟨Or.inl (plain_youLevel _ _ _ h.1.2), h.2⟩
      · rw [if_neg hd] at hex
        refine ResOK.seq (X := body) (k := k) (r1 := r1) (ih body _ _ _ _ _ _ hb) (fun hn => ?_) (fun hn => ?_)
          (fun h => ?_) (fun h => ?_) (fun h => ?_)
        · subst hn
          rw [if_pos rfl] at hex
          obtain ⟨⟨e3, t3, r3⟩, hk, hex⟩ := bind_some hex
          cases hex; exact ih k _ _ _ _ _ _ hk
        · rw [if_neg hn] at hex; cases hex; rfl
        · simp only [noFall, Bool.or_eq_true, Bool.and_eq_true] at h; exact h.imp And.left id
        · simp only [escFree, Bool.and_eq_true] at h; exact ⟨h.1.1, h.2⟩
        · simp only [youLevel, Bool.and_eq_true] at h; exact ⟨Or.inr hd, h.2⟩
    | tryStop body handler k =>
      rw [exec_tryStop] at hex
      obtain ⟨⟨e1, t1, r1⟩, hb, hex⟩ := bind_some hex
      dsimp only at hex
      by_cases hd : r1 = .defeat
      · rw [if_pos hd] at hex
        split at hex
        · cases hex
        · obtain ⟨⟨e2, t2, r2⟩, hh, hex⟩ := bind_some hex
          refine ResOK.seq (X := handler) (k := k) (r1 := r2) (ih handler _ _ _ _ _ _ hh) (fun hn => ?_) (fun hn => ?_)
            (fun h => ?_) (fun h => ?_) (fun h => ?_)
          · subst hn
            obtain ⟨⟨e3, t3, r3⟩, hk, hex⟩ := bind_some hex
            cases hex; exact ih k _ _ _ _ _ _ hk
          · dsimp only at hex; rw [if_neg hn] at hex; cases hex; rfl
          · simp only [noFall, Bool.or_eq_true, Bool.and_eq_true] at h; exact h.imp And.right id
          · simp only [escFree, Bool.and_eq_true] at h; exact ⟨h.1.2, h.2⟩
          · simp only [youLevel, Bool.and_eq_true] at h; exact ⟨Or.inl (plain_youLevel _ _ _ h.1.2), h.2⟩
      · rw [if_neg hd] at hex
        refine ResOK.seq (X := body) (k := k) (r1 := r1) (ih body _ _ _ _ _ _ hb) (fun hn => ?_) (fun hn => ?_)
          (fun h => ?_) (fun h => ?_) (fun h => ?_)
        · subst hn
          rw [if_pos rfl] at hex
          obtain ⟨⟨e3, t3, r3⟩, hk, hex⟩ := bind_some hex
          cases hex; exact ih k _ _ _ _ _ _ hk
        · rw [if_neg hn] at hex; cases hex; rfl
        · simp only [noFall, Bool.or_eq_true, Bool.and_eq_true] at h; exact h.imp And.left id
        · simp only [escFree, Bool.and_eq_true] at h; exact ⟨h.1.1, h.2⟩
        · simp only [youLevel, Bool.and_eq_true] at h; exact ⟨Or.inr hd, h.2⟩
    | callS g args k =>
      rw [exec_callS] at hex
      refine ResOK.call (k := k) (g := g) rfl rfl rfl ?_
      split at hex
      · cases hex
      · rename_i hc
        cases hex
        exact (callWith_fault hc).imp id (Or.imp id Or.inl)
      · obtain ⟨⟨e1, t1, r1⟩, hk, hex⟩ := bind_some hex
        cases hex; exact Or.inr (Or.inr (Or.inr (ih k _ _ _ _ _ _ hk)))
    | declCall x g args k =>
      rw [exec_declCall] at hex
      refine ResOK.call (k := k) (g := g) rfl rfl rfl ?_
      split at hex
      · cases hex
      · rename_i hc
        cases hex
        exact (callWith_fault hc).imp id (Or.imp id Or.inl)
      · cases hex
      · obtain ⟨⟨e1, t1, r1⟩, hk, hex⟩ := bind_some hex
        cases hex; exact Or.inr (Or.inr (Or.inr (ih k _ _ _ _ _ _ hk)))
    | assignCall x g args k =>
      rw [exec_assignCall] at hex
      refine ResOK.call (k := k) (g := g) rfl rfl rfl ?_
      split at hex
      · cases hex
      · rename_i hc
        cases hex
        exact (callWith_fault hc).imp id (Or.imp id Or.inl)
      · cases hex
      · obtain ⟨⟨e1, t1, r1⟩, hk, hex⟩ := bind_some hex
        cases hex; exact Or.inr (Or.inr (Or.inr (ih k _ _ _ _ _ _ hk)))

/-- at the level of the you function a defeat never escapes: every defeat call sits in a `try` -/
theorem exec_no_defeat (M n : Nat) (fns : List FDecl) (w : Nat) (st : Bool) : ∀ (fuel : Nat) (s : S) (room o : Nat) (env env' : Env) (tr : List Ev) (res : Res),
    youLevel st fns s = true → exec M n fns w fuel room o env s = some (env', tr, res) → res ≠ .defeat :=
  fun fuel s room o env env' tr res hy hex => (exec_res M n fns w st fuel s room o env env' tr res hex).2.2 hy

theorem exec_noFall (M n : Nat) (fns : List FDecl) (w : Nat) : ∀ (fuel : Nat) (s : S) (room o : Nat) (env env' : Env) (tr : List Ev) (res : Res),
    noFall s = true → exec M n fns w fuel room o env s = some (env', tr, res) → res ≠ .norm :=
  fun fuel s room o env env' tr res hy hex => (exec_res M n fns w false fuel s room o env env' tr res hex).1 hy

theorem exec_noEsc (M n : Nat) (fns : List FDecl) (w : Nat) : ∀ (fuel : Nat) (s : S) (room o : Nat) (env env' : Env) (tr : List Ev) (res : Res),
    escFree false s = true → exec M n fns w fuel room o env s = some (env', tr, res) → res ≠ .brk ∧ res ≠ .cnt :=
  fun fuel s room o env env' tr res hy hex => (exec_res M n fns w false fuel s room o env env' tr res hex).2.1 hy

theorem callWith_room_mono {M n : Nat} {fns : List FDecl} {w : Nat} {ex : (room o : Nat) → Env → S → Option (Env × List Ev × Res)}
    (hex : ∀ (s : S) (room room' o : Nat) (env env' : Env) (tr : List Ev) (res : Res), room ≤ room' →
      ex room o env s = some (env', tr, res) → res ≠ .ovf → ex room' o env s = some (env', tr, res))
    {room room' o : Nat} {env : Env} {g : String} {args : List E} {trc : List Ev} {fl : Option Res} {rv : Option Nat}
    (hle : room ≤ room') (h : callWith M n fns w ex room o env g args = some (trc, fl, rv)) (hfl : fl ≠ some .ovf) :
    callWith M n fns w ex room' o env g args = some (trc, fl, rv) := by
  unfold callWith at h ⊢
  cases hev : evalArgs M n env args with
  | none => rw [hev] at h; exact h
  | some vs =>
    rw [hev] at h
    cases hfind : fns.find? (fun fd => fd.name == g) with
    | none => rw [hfind] at h; exact h
    | some fd =>
      rw [hfind] at h
      dsimp only at h ⊢
      by_cases hc : vs.length ≠ fd.params.length ∨ room < o
      · rw [if_pos hc] at h; cases h
      · rw [if_neg hc] at h
        rw [if_neg (show ¬ (vs.length ≠ fd.params.length ∨ room' < o) by omega)]
        by_cases hp : room - o < pkS w (entryOff w fd.params) fd.body
        · rw [if_pos hp] at h; cases h; exact absurd rfl hfl
        · rw [if_neg hp] at h
          rw [if_neg (show ¬ (room' - o < pkS w (entryOff w fd.params) fd.body) by omega)]
          cases hb : ex (room - o) (entryOff w fd.params) (bindEnv fd.params vs) fd.body with
          | none => rw [hb] at h; cases h
          | some rb =>
            obtain ⟨eb, tb, rb⟩ := rb
            rw [hb] at h
            rw [hex _ _ _ _ _ _ _ _ (show room - o ≤ room' - o by omega) hb (by rintro rfl; cases h; exact hfl rfl)]
            exact h

/-- the source semantics only ever uses `room` to decide whether a callee's frame fits: more room
never changes a conclusive result that is not a stack overflow -/
theorem exec_room_mono (M n : Nat) (fns : List FDecl) (w : Nat) : ∀ (fuel : Nat) (s : S) (room room' o : Nat) (env env' : Env)
    (tr : List Ev) (res : Res), room ≤ room' →
    exec M n fns w fuel room o env s = some (env', tr, res) → res ≠ .ovf →
    exec M n fns w fuel room' o env s = some (env', tr, res) := by
  intro fuel
  induction fuel with
  | zero => intro s room room' o env env' tr res _ h; rw [exec_zero] at h; cases h
  | succ f ih =>
    intro s room room' o env env' tr res hle hex hno
    have step : ∀ {o : Nat} {env : Env} {X : S} {K K' : Env × List Ev × Res → Option (Env × List Ev × Res)},
        (exec M n fns w f room o env X >>= K) = some (env', tr, res) →
        (∀ a, K a = some (env', tr, res) → a.2.2 ≠ .ovf ∧ K' a = some (env', tr, res)) →
        (exec M n fns w f room' o env X >>= K') = some (env', tr, res) := by
      intro o env X K K' h hK
      obtain ⟨a, hX, h⟩ := bind_some h
      rw [bind_of_some (ih _ _ _ _ _ _ _ _ hle hX (hK a h).1)]; exact (hK a h).2
    have hcw := @callWith_room_mono M n fns w (exec M n fns w f) (fun s room room' o env env' tr res => ih s room room' o env env' tr res)
    cases s with
    | nil | ret | brk | cnt | defeat k | retE e => exact hex
    | decl x e k =>
      rw [exec_decl] at hex ⊢
      cases hev : evalE M n env e with
      | none => rw [hev] at hex; exact hex
      | some v => rw [hev] at hex; exact ih _ _ _ _ _ _ _ _ hle hex hno
    | assign x e k =>
      rw [exec_assign] at hex ⊢
      cases hev : evalE M n env e with
      | none => rw [hev] at hex; exact hex
      | some v => rw [hev] at hex; exact ih _ _ _ _ _ _ _ _ hle hex hno
    | write e k =>
      rw [exec_write] at hex ⊢
      cases hev : evalE M n env e with
      | none => rw [hev] at hex; exact hex
      | some v => rw [hev] at hex; exact step hex (fun ⟨_, _, _⟩ h => ⟨by cases h; exact hno, h⟩)
    | writeln e k =>
      cases e with
      | none => rw [exec_writeln_none] at hex ⊢; exact step hex (fun ⟨_, _, _⟩ h => ⟨by cases h; exact hno, h⟩)
      | some e =>
        rw [exec_writeln_some] at hex ⊢
        cases hev : evalE M n env e with
        | none => rw [hev] at hex; exact hex
        | some v => rw [hev] at hex; exact step hex (fun ⟨_, _, _⟩ h => ⟨by cases h; exact hno, h⟩)
    | putc c k => rw [exec_putc] at hex ⊢; exact step hex (fun ⟨_, _, _⟩ h => ⟨by cases h; exact hno, h⟩)
    | defeatIf c k =>
      rw [exec_defeatIf] at hex ⊢
      cases hev : evalB M n env c with
      | none => rw [hev] at hex; exact hex
      | some cv =>
        rw [hev] at hex
        cases cv with
        | true => exact hex
        | false => exact ih _ _ _ _ _ _ _ _ hle hex hno
    | block b k =>
      rw [exec_block] at hex ⊢
      refine step hex (fun ⟨e1, t1, r1⟩ h => ?_)
      dsimp only at h ⊢
      by_cases hn : r1 = .norm
      · subst hn
        rw [if_pos rfl] at h ⊢
        exact ⟨by decide, step h (fun ⟨_, _, _⟩ h => ⟨by cases h; exact hno, h⟩)⟩
      · rw [if_neg hn] at h ⊢
        exact ⟨by cases h; exact hno, h⟩
    | ifb c t e k =>
      rw [exec_ifb] at hex ⊢
      cases hev : evalB M n env c with
      | none => rw [hev] at hex; exact hex
      | some cv =>
        rw [hev] at hex
        refine step hex (fun ⟨e1, t1, r1⟩ h => ?_)
        dsimp only at h ⊢
        by_cases hn : r1 = .norm
        · subst hn
          rw [if_pos rfl] at h ⊢
          exact ⟨by decide, step h (fun ⟨_, _, _⟩ h => ⟨by cases h; exact hno, h⟩)⟩
        · rw [if_neg hn] at h ⊢
          exact ⟨by cases h; exact hno, h⟩
    | loop c body cont k =>
      rw [exec_loop] at hex ⊢
      cases hev : evalB M n env c with
      | none => rw [hev] at hex; exact hex
      | some cv =>
        rw [hev] at hex
        cases cv with
        | false => exact ih _ _ _ _ _ _ _ _ hle hex hno
        | true =>
          refine step hex (fun ⟨e1, t1, r1⟩ h => ?_)
          dsimp only at h ⊢
          by_cases hn : r1 = .norm ∨ r1 = .cnt
          · rw [if_pos hn] at h ⊢
            refine ⟨by rcases hn with hn | hn <;> rw [hn] <;> decide, step h (fun ⟨e2, t2, r2⟩ h => ?_)⟩
            dsimp only at h ⊢
            by_cases hn2 : r2 = .norm
            · subst hn2
              rw [if_pos rfl] at h ⊢
              exact ⟨by decide, step h (fun ⟨_, _, _⟩ h => ⟨by cases h; exact hno, h⟩)⟩
            · rw [if_neg hn2] at h ⊢
              exact ⟨by cases h; exact hno, h⟩
          · rw [if_neg hn] at h ⊢
            by_cases hbk : r1 = .brk
            · subst hbk
              rw [if_pos rfl] at h ⊢
              exact ⟨by decide, step h (fun ⟨_, _, _⟩ h => ⟨by cases h; exact hno, h⟩)⟩
            · rw [if_neg hbk] at h ⊢
              exact ⟨by cases h; exact hno, h⟩
    | tryUndo body handler k =>
      rw [exec_tryUndo] at hex ⊢
      refine step hex (fun ⟨e1, t1, r1⟩ h => ?_)
      dsimp only at h ⊢
      by_cases hd : r1 = .defeat
      · subst hd
        rw [if_pos rfl] at h ⊢
        refine ⟨by decide, step h (fun ⟨e2, t2, r2⟩ h => ?_)⟩
        dsimp only at h ⊢
        by_cases hn2 : r2 = .norm
        · subst hn2
          rw [if_pos rfl] at h ⊢
          exact ⟨by decide, step h (fun ⟨_, _, _⟩ h => ⟨by cases h; exact hno, h⟩)⟩
        · rw [if_neg hn2] at h ⊢
          exact ⟨by cases h; exact hno, h⟩
      · rw [if_neg hd] at h ⊢
        by_cases hn : r1 = .norm
        · subst hn
          rw [if_pos rfl] at h ⊢
          exact ⟨by decide, step h (fun ⟨_, _, _⟩ h => ⟨by cases h; exact hno, h⟩)⟩
        · rw [if_neg hn] at h ⊢
          exact ⟨by cases h; exact hno, h⟩
    | tryStop body handler k =>
      rw [exec_tryStop] at hex ⊢
      refine step hex (fun ⟨e1, t1, r1⟩ h => ?_)
      dsimp only at h ⊢
      by_cases hd : r1 = .defeat
      · subst hd
        rw [if_pos rfl] at h ⊢
        by_cases hap : e1 "%ap" ≠ 5 * w
        · rw [if_pos hap] at h; cases h
        · rw [if_neg hap] at h ⊢
          refine ⟨by decide, step h (fun ⟨e2, t2, r2⟩ h => ?_)⟩
          dsimp only at h ⊢
          by_cases hn2 : r2 = .norm
          · subst hn2
            rw [if_pos rfl] at h ⊢
            exact ⟨by decide, step h (fun ⟨_, _, _⟩ h => ⟨by cases h; exact hno, h⟩)⟩
          · rw [if_neg hn2] at h ⊢
            exact ⟨by cases h; exact hno, h⟩
      · rw [if_neg hd] at h ⊢
        by_cases hn : r1 = .norm
        · subst hn
          rw [if_pos rfl] at h ⊢
          exact ⟨by decide, step h (fun ⟨_, _, _⟩ h => ⟨by cases h; exact hno, h⟩)⟩
        · rw [if_neg hn] at h ⊢
          exact ⟨by cases h; exact hno, h⟩
    | callS g args k =>
      rw [exec_callS] at hex ⊢
      cases hc : callWith M n fns w (exec M n fns w f) room o env g args with
      | none => rw [hc] at hex; cases hex
      | some rc =>
        obtain ⟨trc, fl, rv⟩ := rc
        rw [hc] at hex
        cases fl with
        | some rf => rw [hcw hle hc (by intro h; cases h; cases hex; exact hno rfl)]; exact hex
        | none => rw [hcw hle hc nofun]; exact step hex (fun ⟨_, _, _⟩ h => ⟨by cases h; exact hno, h⟩)
    | declCall x g args k =>
      rw [exec_declCall] at hex ⊢
      cases hc : callWith M n fns w (exec M n fns w f) room o env g args with
      | none => rw [hc] at hex; cases hex
      | some rc =>
        obtain ⟨trc, fl, rv⟩ := rc
        rw [hc] at hex
        cases fl with
        | some rf => rw [hcw hle hc (by intro h; cases h; cases hex; exact hno rfl)]; exact hex
        | none =>
          rw [hcw hle hc nofun]
          cases rv with
          | none => cases hex
          | some v => exact step hex (fun ⟨_, _, _⟩ h => ⟨by cases h; exact hno, h⟩)
    | assignCall x g args k =>
      rw [exec_assignCall] at hex ⊢
      cases hc : callWith M n fns w (exec M n fns w f) room o env g args with
      | none => rw [hc] at hex; cases hex
      | some rc =>
        obtain ⟨trc, fl, rv⟩ := rc
        rw [hc] at hex
        cases fl with
        | some rf => rw [hcw hle hc (by intro h; cases h; cases hex; exact hno rfl)]; exact hex
        | none =>
          rw [hcw hle hc nofun]
          cases rv with
          | none => cases hex
          | some v => exact step hex (fun ⟨_, _, _⟩ h => ⟨by cases h; exact hno, h⟩)

end HidVerif.Core
