import HidVerif.Proofs.WriteIntFull
/-!
# `write_int`: entry to return, all three paths (non-negative, negative, minimum integer)
-/
namespace HidVerif.Sphinx
open HidVerif HidVerif.PSys HidVerif.Gen

theorem write_int_spec (p : Prog) (B : Nat) (hp : Placed p B)
    (m : Mem) (F v ra r0 r1 r2 : Nat)
    (hv : v < 256 ^ p.w) (hFM : F < 256 ^ p.w) (hFsz : F ≤ m.size)
    (hroom : 5 * p.w + (digits (absW (256 ^ p.w) v)).length + p.w ≤ F) (h7 : 7 * p.w ≤ F)
    (hr : Regs p.w m F r0 r1 r2)
    (harg : m.readLE (F - 2 * p.w) p.w = v) (hra : m.readLE (F - p.w) p.w = ra) :
    ∃ m', Reach (sphinx p) ⟨B + off_write_int, m⟩ (outs (decimalW (256 ^ p.w) v)) ⟨ra, m'⟩ ∧
      Same p.w m m' (F - p.w - (digits (absW (256 ^ p.w) v)).length) (F - p.w) := by
  have hw := hp.hw
  have hM := pow_ge2 p.w hw
  have h2 : 2 ≤ 256 ^ p.w := Nat.le_trans (by decide) hM
  have heven := pow256_even p.w (Nat.le_of_succ_le hw)
  have hwi := hp.wi
  have h6 : 6 * p.w ≤ F := Nat.le_trans (Nat.mul_le_mul_right _ (by decide)) h7
  have h14 := hp.addr_lt off_write_int 14 (by decide)
  -- r0 := fp - w; r2 := [fp - 2w]
  obtain ⟨m0, x0, hr0, sm0⟩ := hr.wr0
    (hr.step_alu hw (hwi.get 0 rfl) (.inl rfl) (hr.ev_fp hw) (ev_imm _)
      (congrArg some (add_neg_mod (Nat.le_trans (Nat.le_mul_of_pos_left p.w (by decide : 0 < 6)) h6)
        (Nat.lt_of_lt_of_le (by decide) hw) hFM)))
  have s1 := hr0.step_ldfp hw (hwi.get 1 rfl) (.inr (.inr rfl)) (Nat.le_mul_of_pos_left p.w (by decide))
    (le_frame (by decide) h6) hFM (sm0.1 ▸ hFsz)
  rw [sm0.readLE _ _ (Nat.le_sub_of_add_le (by rw [← Nat.add_mul]; exact h7)) (.inr (Nat.zero_le _)), harg] at s1
  obtain ⟨m1, x1, hr1, sm1'⟩ := hr0.wr2 s1
  have sm1 := sm0.trans0 sm1'
  have hra1 := sm1.ra h6 (Nat.zero_le _) hra
  have pre := x0.trans x1
  have z : ∀ pc m, evalArg p ⟨pc, m⟩ (.imm 0) = some 0 := fun _ _ => ev_imm_small hw (by decide)
  -- at `write_int_pos` (+14) `hlt r2, 0` fires for a negative `r2`, whatever else memory holds
  have halts14 : ∀ (mm : Mem) (f a b x : Nat), Regs p.w mm f a b x → ¬ x < 256 ^ p.w / 2 → x < 256 ^ p.w →
      Halts (sphinx p) ⟨B + off_write_int + 14, mm⟩ := fun mm f a b x hrr hx hxM =>
    hcond_halts (hwi.get 14 rfl) (hrr.ev_r2 hw) (z _ _)
      ((hlt0 h2 hxM).trans (decide_eq_true hx))
  -- +2: j pos ; +3: hge r2, 0
  have e3 := hge0 (M := 256 ^ p.w) (v := v) h2 hv
  unfold absW at hroom ⊢
  by_cases hpos : v < 256 ^ p.w / 2
  · -- non-negative
    rw [if_pos hpos] at hroom ⊢
    have j2 := jh_taken (hwi.get 2 rfl) (hwi.get 3 rfl) h14 (hr1.ev_r2 hw) (z _ _)
      (e3.trans (decide_eq_true hpos))
    obtain ⟨m', hreach, hsame⟩ := wi_pos p B hp m1 F v ra r1 hpos hroom h7 hFM (sm1.1 ▸ hFsz) hr1 hra1
    exact ⟨m', by simpa [decimalW, hpos] using pre.trans (j2.trans hreach),
      (sm1.of_zero _ _).trans hsame (Nat.le_refl _) (Nat.le_refl _)⟩
  · -- negative: print '-', negate
    rw [if_neg hpos] at hroom ⊢
    have f2 := jh_fall (hwi.get 2 rfl) (hwi.get 3 rfl) h14 (hr1.ev_r2 hw) (z _ _)
      (e3.trans (decide_eq_false hpos)) (fun _ => halts14 m1 _ _ _ v hr1 hpos hv)
    have x4 := yld_imm (m := m1) (hwi.get 4 rfl) (by decide) hw
    obtain ⟨m5, x5, hr5, sm5'⟩ := hr1.wr2
      (hr1.step_alu hw (hwi.get 5 rfl) (.inr (.inr rfl)) (z _ _) (hr1.ev_r2 hw)
        (congrArg some (by rw [Nat.zero_add, Nat.mod_eq_of_lt hv, Nat.mod_eq_of_lt (by omega)])))
    have sm5 := sm1.trans0 sm5'
    have hra5 := sm5.ra h6 (Nat.zero_le _) hra
    have neg : Reach (sphinx p) ⟨B + off_write_int, m⟩ [Ev.out 45] ⟨B + off_write_int + 5 + 1, m5⟩ :=
      pre.trans (f2.trans (x4.trans x5))
    have hd : decimalW (256 ^ p.w) v = 45 :: digits (256 ^ p.w - v) := by simp [decimalW, hpos]
    rw [hd]
    -- +6: j pos ; +7: hge r2, 0
    have e7 := hge0 (M := 256 ^ p.w) (v := 256 ^ p.w - v) h2 (by omega)
    by_cases hmin : 256 ^ p.w - v < 256 ^ p.w / 2
    · -- ordinary negative number: its magnitude is representable
      have j6 := jh_taken (hwi.get 6 rfl) (hwi.get 7 rfl) h14 (hr5.ev_r2 hw) (z _ _)
        (e7.trans (decide_eq_true hmin))
      obtain ⟨m', hreach, hsame⟩ :=
        wi_pos p B hp m5 F (256 ^ p.w - v) ra r1 hmin hroom h7 hFM (sm5.1 ▸ hFsz) hr5 hra5
      exact ⟨m', by simpa [outs] using neg.trans (j6.trans hreach),
        (sm5.of_zero _ _).trans hsame (Nat.le_refl _) (Nat.le_refl _)⟩
    · -- the minimum integer: v = M / 2, and 0 - v = v
      have hHH : 256 ^ p.w - v = 256 ^ p.w / 2 := by omega
      rw [hHH] at hr5 hroom e7 hmin ⊢
      generalize hH : 256 ^ p.w / 2 = H at *
      have f6 := jh_fall (hwi.get 6 rfl) (hwi.get 7 rfl) h14 (hr5.ev_r2 hw) (z _ _)
        (e7.trans (decide_eq_false hmin)) (fun _ => halts14 m5 _ _ _ H hr5 (by omega) (by omega))
      obtain ⟨m', hreach, hsame⟩ := wi_min p B hp m5 F ra r1 H (by omega) (by omega) hroom h7 hFM
        (sm5.1 ▸ hFsz) hr5 hra5
      exact ⟨m', by simpa [outs] using neg.trans (f6.trans hreach),
        (sm5.of_zero _ _).trans hsame (Nat.le_refl _) (Nat.le_refl _)⟩

end HidVerif.Sphinx
