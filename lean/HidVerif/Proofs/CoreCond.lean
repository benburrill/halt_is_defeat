import HidVerif.Proofs.CoreExpr
/-!
# Core compiler proofs: conditions (`bool_expr_branch`)

Control reaches the "true" continuation exactly when the source semantics evaluates the
condition to `true`, the "false" continuation when it is `false`, and (checked builds) the
`division_by_zero` stub when an operand faults.  The continuations of the core are the two
shapes `bool_expr_branch` is ever called with there: fall through (`[]`) or `goto t`.
-/
namespace HidVerif.Core
open HidVerif HidVerif.PSys HidVerif.Sphinx HidVerif.Gen

/-- a continuation of `bool_expr_branch`: fall through (`none`) or `goto t` -/
def brCode : Option Nat → List Instr
  | none => []
  | some t => goto t

@[simp] theorem endsGoto_brCode (t : Option Nat) : endsGoto (brCode t) = t.isSome := by
  cases t <;> rfl

theorem inv_halt (M : Nat) (op : COp) (x y : Nat) :
    haltCond M (invHalt op) x y = !haltCond M (cmpHalt op) x y := by
  cases op <;> simp only [haltCond, cmpHalt, invHalt]
  · generalize Sphinx.toS M x = a; generalize Sphinx.toS M y = b
    by_cases h : a < b <;> simp [h] <;> omega
  · generalize Sphinx.toS M x = a; generalize Sphinx.toS M y = b
    by_cases h : a > b <;> simp [h] <;> omega
  · generalize Sphinx.toS M x = a; generalize Sphinx.toS M y = b
    by_cases h : a ≤ b <;> simp [h] <;> omega
  · generalize Sphinx.toS M x = a; generalize Sphinx.toS M y = b
    by_cases h : a ≥ b <;> simp [h] <;> omega
  · simp [bne]
  · simp [bne]

theorem pkB_ge (w : Nat) (b : B) : ∀ (o : Nat), o ≤ pkB w o b := by
  induction b with
  | lit v => intro o; simp [pkB]
  | cmp op l r => intro o; have := pkE_ge w l o (!isSafe r); simp only [pkB]; omega
  | not b ih => intro o; simpa [pkB] using ih o
  | and l r ihl _ => intro o; have := ihl o; simp only [pkB]; omega
  | or l r ihl _ => intro o; have := ihl o; simp only [pkB]; omega


/-- `and` is compiled, and evaluated, as the De Morgan dual of `or` -/
theorem cB_and (cx : Cx) (Γ : Gam) (pc o : Nat) (l r : Core.B) (ifT ifF : List Instr) :
    cB cx Γ pc o (.and l r) ifT ifF = cB cx Γ pc o (.not (.or (.not l) (.not r))) ifT ifF := rfl

theorem cB_cmp_br (cx : Cx) (Γ : Gam) (pc o : Nat) (op : COp) (l r : E) (tT tF : Option Nat) :
    cB cx Γ pc o (.cmp op l r) (brCode tT) (brCode tF) =
      opnds cx Γ pc o l r ++
        [.j (.imm (pc + (opnds cx Γ pc o l r).length + 4)),
         .hcond (cmpHalt op) ((opndL cx Γ pc o l r).arg cx) ((opndR cx Γ pc o l r).arg cx),
         .j (.imm (tF.getD (pc + (opnds cx Γ pc o l r).length + 5 + (brCode tT).length))), .halt,
         .hcond (invHalt op) ((opndL cx Γ pc o l r).arg cx) ((opndR cx Γ pc o l r).arg cx)] ++ brCode tT := by
  rw [cB_cmp]; simp only [endsGoto_brCode]; cases tF <;> simp [brCode, goto, Nat.add_assoc]

theorem cB_or_br (cx : Cx) (Γ : Gam) (pc o : Nat) (l r : Core.B) (tT tF : Option Nat) :
    cB cx Γ pc o (.or l r) (brCode tT) (brCode tF) =
      cB cx Γ pc o l
          (brCode (some (tT.getD (pc + lenB cx.checked l 2 2 true true +
            lenB cx.checked r (brCode tT).length (brCode tF).length tT.isSome tF.isSome))))
          (brCode (some (pc + lenB cx.checked l 2 2 true true))) ++
        cB cx Γ (pc + lenB cx.checked l 2 2 true true) o r (brCode tT) (brCode tF) := by
  simp only [cB, endsGoto_brCode]; cases tT <;> rfl

section
variable {p : Prog} {ck : Bool} {B : Nat} {dA : Nat}

theorem br_reach (a : Nat) (m : Mem) (t : Option Nat) (h : PlacedAt p a (brCode t))
    (ht : ∀ x, t = some x → x < 256 ^ p.w) :
    Reach (sphinx p) ⟨a, m⟩ [] ⟨t.getD (a + (brCode t).length), m⟩ := by
  cases t with
  | none => exact Reach.refl
  | some x =>
    obtain ⟨c0, h⟩ := placed_cons h
    exact jump_halt c0 (placed_one h) (ev_imm_lt (ht x rfl))

/-- what `cB_ok` says of one condition -/
def BOk (p : Prog) (ck : Bool) (B dA : Nat) (Γ : Gam) (env : Env) (F D : Nat) (b : Core.B) : Prop :=
  ∀ (pc o : Nat) (tT tF : Option Nat) (m : Mem),
    PlacedAt p pc (cB (cxOf p ck B dA) Γ pc o b (brCode tT) (brCode tF)) →
    pc + (cB (cxOf p ck B dA) Γ pc o b (brCode tT) (brCode tF)).length ≤ B →
    (∀ x, tT = some x → x < 256 ^ p.w) → (∀ x, tF = some x → x < 256 ^ p.w) →
    Fr p m F D → VarsOK p.w Γ env m F o → boundB (Γ.map Prod.fst) b = true → pkB p.w o b ≤ D → p.w ≤ o →
    (∀ bv, evalB (256 ^ p.w) (8 * p.w) env b = some bv →
      ∃ m', Reach (sphinx p) ⟨pc, m⟩ []
          ⟨(if bv then tT else tF).getD (pc + (cB (cxOf p ck B dA) Γ pc o b (brCode tT) (brCode tF)).length), m'⟩ ∧
        Keep p.w m m' (F - o)) ∧
    (evalB (256 ^ p.w) (8 * p.w) env b = none → ck = true →
      ∃ m', Reach (sphinx p) ⟨pc, m⟩ [] ⟨B + off_division_by_zero, m'⟩)

theorem BOk_lit (Γ : Gam) (env : Env) (F D : Nat) (v : Bool) :
    BOk p ck B dA Γ env F D (.lit v) := by
  intro pc o tT tF m hpl hB htT htF fr _ _ _ _
  refine ⟨fun bv hbv => ?_, fun h => nomatch h⟩
  cases Option.some.inj hbv
  cases v with
  | true => exact ⟨m, br_reach pc m tT hpl htT, Keep.refl _ _ _⟩
  | false => exact ⟨m, br_reach pc m tF hpl htF, Keep.refl _ _ _⟩

theorem BOk_not {Γ : Gam} {env : Env} {F D : Nat} {b : Core.B} (h : BOk p ck B dA Γ env F D b) :
    BOk p ck B dA Γ env F D (.not b) := by
  intro pc o tT tF m hpl hB htT htF fr hvars hb hpk ho
  have ih := h pc o tF tT m hpl hB htF htT fr hvars hb hpk ho
  refine ⟨fun bv hbv => ?_, fun hn => ih.2 (evalB_not_none.1 hn)⟩
  obtain ⟨m', r, k⟩ := ih.1 (!bv) (evalB_not_some.1 hbv)
  exact ⟨m', by cases bv <;> exact r, k⟩

theorem BOk_or (lib : Placed p B) {Γ : Gam} {env : Env} {F D : Nat} {l r : Core.B}
    (hl : BOk p ck B dA Γ env F D l) (hr : BOk p ck B dA Γ env F D r) : BOk p ck B dA Γ env F D (.or l r) := by
  intro pc o tT tF m hpl hB htT htF fr hvars hb hpk ho
  simp only [boundB, Bool.and_eq_true] at hb
  simp only [pkB, Nat.max_le] at hpk
  rw [cB_or_br] at hpl hB ⊢
  have hlenL : ∀ a b, (cB (cxOf p ck B dA) Γ pc o l (brCode (some a)) (brCode (some b))).length
      = lenB ck l 2 2 true true := fun a b => cB_len _ _ _ _ _ _ _
  have hlenR : ∀ a, (cB (cxOf p ck B dA) Γ a o r (brCode tT) (brCode tF)).length
      = lenB ck r (brCode tT).length (brCode tF).length tT.isSome tF.isSome := fun a => by
    rw [cB_len, endsGoto_brCode, endsGoto_brCode]
  generalize lenB (cxOf p ck B dA).checked l 2 2 true true = nL at hpl hB hlenL ⊢
  generalize lenB (cxOf p ck B dA).checked r (brCode tT).length (brCode tF).length tT.isSome tF.isSome = nR at hpl hB hlenR ⊢
  obtain ⟨hplL, hplR⟩ := hpl.append
  rw [hlenL] at hplR
  rw [List.length_append, hlenL, hlenR, ← Nat.add_assoc] at hB ⊢
  have hend : pc + nL + nR < 256 ^ p.w := Nat.lt_of_le_of_lt hB (lib.lt 0 (Nat.zero_le _))
  have ihl := hl pc o (some (tT.getD (pc + nL + nR))) (some (pc + nL)) m hplL (by rw [hlenL]; exact Nat.le_of_add_right_le hB)
    (fun x hx => by
      cases hx
      cases tT with
      | none => exact hend
      | some t => exact htT t rfl)
    (fun x hx => by cases hx; exact Nat.lt_of_le_of_lt (Nat.le_of_add_right_le hB) (lib.lt 0 (Nat.zero_le _)))
    fr hvars hb.1 hpk.1 ho
  have right : ∀ m1, Keep p.w m m1 (F - o) → _ := fun m1 k1 =>
    hr (pc + nL) o tT tF m1 hplR (by rw [hlenR]; exact hB) htT htF (fr.keep k1)
      (hvars.keep k1 (Nat.le_refl _) (Nat.le_refl _)) hb.2 hpk.2 ho
  refine ⟨fun bv hbv => ?_, fun hn hck => ?_⟩
  · rcases evalB_or_some.1 hbv with ⟨hv, rfl⟩ | ⟨hv, hbv⟩
    · obtain ⟨m1, r1, k1⟩ := ihl.1 true hv
      exact ⟨m1, r1, k1⟩
    · obtain ⟨m1, r1, k1⟩ := ihl.1 false hv
      have h2 := (right m1 k1).1 bv hbv
      rw [hlenR] at h2
      obtain ⟨m2, r2, k2⟩ := h2
      exact ⟨m2, reach_seq r1 r2, k1.trans' k2⟩
  · rcases evalB_or_none.1 hn with hv | ⟨hv, hn⟩
    · exact ihl.2 hv hck
    · obtain ⟨m1, r1, k1⟩ := ihl.1 false hv
      obtain ⟨m2, r2⟩ := (right m1 k1).2 hn hck
      exact ⟨m2, reach_seq r1 r2⟩

theorem BOk_and (lib : Placed p B) {Γ : Gam} {env : Env} {F D : Nat} {l r : Core.B}
    (hl : BOk p ck B dA Γ env F D l) (hr : BOk p ck B dA Γ env F D r) : BOk p ck B dA Γ env F D (.and l r) := by
  intro pc o tT tF m hpl hB htT htF fr hvars hb hpk ho
  rw [cB_and] at hpl hB ⊢
  rw [evalB_and]
  exact BOk_not (BOk_or lib (BOk_not hl) (BOk_not hr)) pc o tT tF m hpl hB htT htF fr hvars hb hpk ho

/-- the operands of a comparison: afterwards a conditional halt on them, wherever it stands, tests the values -/
theorem cmp_ok (lib : Placed p B) (Γ : Gam) (env : Env) (F D : Nat) (op : COp) (l r : E) (pc o : Nat) (m : Mem)
    (hpl : PlacedAt p pc (opnds (cxOf p ck B dA) Γ pc o l r))
    (hB : pc + (opnds (cxOf p ck B dA) Γ pc o l r).length ≤ B)
    (fr : Fr p m F D) (hvars : VarsOK p.w Γ env m F o)
    (hb : boundB (Γ.map Prod.fst) (.cmp op l r) = true) (hpk : pkB p.w o (.cmp op l r) ≤ D) (ho : p.w ≤ o) :
    (∀ bv, evalB (256 ^ p.w) (8 * p.w) env (.cmp op l r) = some bv →
      ∃ m4 a b, Reach (sphinx p) ⟨pc, m⟩ [] ⟨pc + (opnds (cxOf p ck B dA) Γ pc o l r).length, m4⟩ ∧
        Keep p.w m m4 (F - o) ∧ haltCond (256 ^ p.w) (cmpHalt op) a b = bv ∧
        ∀ pc' h, p.code[pc']? = some (.hcond h ((opndL (cxOf p ck B dA) Γ pc o l r).arg (cxOf p ck B dA))
            ((opndR (cxOf p ck B dA) Γ pc o l r).arg (cxOf p ck B dA))) →
          Sphinx.step p ⟨pc', m4⟩ = if haltCond (256 ^ p.w) h a b then .halt else .next ⟨pc' + 1, m4⟩ none) ∧
    (evalB (256 ^ p.w) (8 * p.w) env (.cmp op l r) = none → ck = true →
      ∃ m', Reach (sphinx p) ⟨pc, m⟩ [] ⟨B + off_division_by_zero, m'⟩) := by
  simp only [boundB, Bool.and_eq_true] at hb
  simp only [pkB, Nat.max_le] at hpk
  have hops := opnds_ok lib (eOk lib Γ env F D l) (eOk lib Γ env F D r) pc o m hpl hB fr hvars hb.1 hb.2
    hpk.1 hpk.2 ho
  refine ⟨fun bv hbv => ?_, fun hn hck => hops.2 (evalB_cmp_none.1 hn) hck⟩
  obtain ⟨a, b, hea, heb, hbv⟩ := evalB_cmp_some.1 hbv
  obtain ⟨m4, r4, k4, hargl, hargr, hvl, hvr⟩ := hops.1 a b hea heb
  refine ⟨m4, a, b, r4, k4, hbv, fun pc' h hc => ?_⟩
  have s := step_hcond (m := m4) hc (ev_arg_any lib.hw (fr.keep k4) _ _ hargl) (ev_arg_any lib.hw (fr.keep k4) _ _ hargr)
  rwa [hvl, hvr] at s

theorem BOk_cmp (lib : Placed p B) (Γ : Gam) (env : Env) (F D : Nat) (op : COp) (l r : E) :
    BOk p ck B dA Γ env F D (.cmp op l r) := by
  have hBM := lib.hB
  intro pc o tT tF m hpl hB htT htF fr hvars hb hpk ho
  rw [cB_cmp_br] at hpl hB ⊢
  obtain ⟨hpl12, hplT⟩ := hpl.append
  obtain ⟨hplP, hplJ⟩ := hpl12.append
  simp only [List.length_append, List.length_cons, List.length_nil, Nat.zero_add, Nat.reduceAdd, ← Nat.add_assoc] at hB hplT ⊢
  have hc := cmp_ok lib Γ env F D op l r pc o m hplP (Nat.le_of_add_right_le (Nat.le_of_add_right_le hB)) fr hvars hb hpk ho
  generalize opndL (cxOf p ck B dA) Γ pc o l r = vl at hplJ hc
  generalize opndR (cxOf p ck B dA) Γ pc o l r = vr at hplJ hc
  generalize (opnds (cxOf p ck B dA) Γ pc o l r).length = n at *
  refine ⟨fun bv hbv => ?_, hc.2⟩
  obtain ⟨m4, a, b, r4, k4, hbv, hstep⟩ := hc.1 bv hbv
  obtain ⟨c0, h⟩ := placed_cons hplJ; obtain ⟨c1, h⟩ := placed_cons h; obtain ⟨c2, h⟩ := placed_cons h
  obtain ⟨c3, h⟩ := placed_cons h; obtain ⟨c4, _⟩ := placed_cons h
  have hend : pc + n + 5 + (brCode tT).length < 256 ^ p.w := Nat.lt_of_le_of_lt hB (lib.lt 0 (Nat.zero_le _))
  have s0 := step_j (m := m4) c0 (ev_imm (pc + n + 4))
  rw [show (pc + n + 4) % p.M = pc + n + 4 from Nat.mod_eq_of_lt (by unfold Prog.M; omega)] at s0
  have s1 := hstep _ _ c1
  have s4 := hstep _ _ c4
  simp only [inv_halt, hbv] at s1 s4
  cases bv with
  | true =>
    -- the halt fires: the jump to the inverse test is taken, which does not fire
    simp only [if_true] at s1
    simp only [Bool.not_true, Bool.false_eq_true, if_false] at s4
    have br := br_reach (pc + n + 4 + 1) m4 tT hplT htT
    exact ⟨m4, reach_seq r4 (reach_seq (Reach.jump_taken (sys := sphinx p) s0 s1)
      (reach_seq (Reach.of_next (sys := sphinx p) s4) br)), k4⟩
  | false =>
    simp only [Bool.false_eq_true, if_false] at s1
    simp only [Bool.not_false, if_true] at s4
    have fall := Reach.jump_fallthrough (sys := sphinx p) s0 s1 (fun _ => Halts.halt (sys := sphinx p) s4)
    have hX : tF.getD (pc + n + 5 + (brCode tT).length) < 256 ^ p.w := by
      cases tF with
      | none => exact hend
      | some t => exact htF t rfl
    have s2 := step_j (m := m4) c2 (ev_imm (tF.getD (pc + n + 5 + (brCode tT).length)))
    rw [show (tF.getD (pc + n + 5 + (brCode tT).length)) % p.M = tF.getD (pc + n + 5 + (brCode tT).length)
      from Nat.mod_eq_of_lt (by unfold Prog.M; exact hX)] at s2
    exact ⟨m4, reach_seq r4 (reach_seq fall (Reach.jump_taken (sys := sphinx p) s2 (step_halt (m := m4) c3))), k4⟩

theorem cB_ok (lib : Placed p B) (Γ : Gam) (env : Env) (F D : Nat) :
    ∀ (b : Core.B) (pc o : Nat) (tT tF : Option Nat) (m : Mem),
      PlacedAt p pc (cB (cxOf p ck B dA) Γ pc o b (brCode tT) (brCode tF)) →
      pc + (cB (cxOf p ck B dA) Γ pc o b (brCode tT) (brCode tF)).length ≤ B →
      (∀ x, tT = some x → x < 256 ^ p.w) → (∀ x, tF = some x → x < 256 ^ p.w) →
      Fr p m F D → VarsOK p.w Γ env m F o → boundB (Γ.map Prod.fst) b = true → pkB p.w o b ≤ D → p.w ≤ o →
      (∀ bv, evalB (256 ^ p.w) (8 * p.w) env b = some bv →
        ∃ m', Reach (sphinx p) ⟨pc, m⟩ []
            ⟨(if bv then tT else tF).getD (pc + (cB (cxOf p ck B dA) Γ pc o b (brCode tT) (brCode tF)).length), m'⟩ ∧
          Keep p.w m m' (F - o)) ∧
      (evalB (256 ^ p.w) (8 * p.w) env b = none → ck = true →
        ∃ m', Reach (sphinx p) ⟨pc, m⟩ [] ⟨B + off_division_by_zero, m'⟩) := by
  intro b
  induction b with
  | lit v => exact BOk_lit Γ env F D v
  | cmp op l r => exact BOk_cmp lib Γ env F D op l r
  | not b ih => exact BOk_not ih
  | and l r ihl ihr => exact BOk_and lib ihl ihr
  | or l r ihl ihr => exact BOk_or lib ihl ihr


/-- `!truth_is_defeat(c)` where the effective defeat is `halt`: the machine halts (on this
timeline) exactly when the condition is true, and falls through when it is false -/
theorem cD_ok (lib : Placed p B) (Γ : Gam) (env : Env) (F D : Nat) :
    ∀ (b : Core.B) (pc o : Nat) (m : Mem),
      isD b = true →
      PlacedAt p pc (cD (cxOf p ck B dA) false Γ pc o b) →
      pc + (cD (cxOf p ck B dA) false Γ pc o b).length ≤ B →
      Fr p m F D → VarsOK p.w Γ env m F o → boundB (Γ.map Prod.fst) b = true → pkB p.w o b ≤ D → p.w ≤ o →
      (evalB (256 ^ p.w) (8 * p.w) env b = some false →
        ∃ m', Reach (sphinx p) ⟨pc, m⟩ [] ⟨pc + (cD (cxOf p ck B dA) false Γ pc o b).length, m'⟩ ∧ Keep p.w m m' (F - o)) ∧
      (evalB (256 ^ p.w) (8 * p.w) env b = some true → Halts (sphinx p) ⟨pc, m⟩) ∧
      (evalB (256 ^ p.w) (8 * p.w) env b = none → ck = true →
        ∃ m', Reach (sphinx p) ⟨pc, m⟩ [] ⟨B + off_division_by_zero, m'⟩) := by
  have hw := lib.hw
  intro b
  induction b with
  | lit v =>
    intro pc o m _ hpl hB fr _ _ _ _
    cases v with
    | true =>
      exact ⟨fun h => by simp [evalB] at h, fun _ => Halts.halt (sys := sphinx p) (step_halt (m := m) (placed_one hpl)),
        fun h => by simp [evalB] at h⟩
    | false =>
      exact ⟨fun _ => ⟨m, Reach.refl, Keep.refl _ _ _⟩, fun h => by simp [evalB] at h, fun h => by simp [evalB] at h⟩
  | not b _ => intro pc o m hd; cases hd
  | and l r _ _ => intro pc o m hd; cases hd
  | or l r ihl ihr =>
    intro pc o m hd hpl hB fr hvars hb hpk ho
    simp only [isD, Bool.and_eq_true] at hd
    simp only [boundB, Bool.and_eq_true] at hb
    simp only [pkB, Nat.max_le] at hpk
    simp only [cD] at hpl hB ⊢
    obtain ⟨hpl1, hpl2⟩ := hpl.append
    rw [List.length_append, ← Nat.add_assoc] at hB ⊢
    have h1 := ihl pc o m hd.1 hpl1 (Nat.le_of_add_right_le hB) fr hvars hb.1 hpk.1 ho
    have right : ∀ m1, Keep p.w m m1 (F - o) → _ := fun m1 k1 =>
      ihr (pc + (cD (cxOf p ck B dA) false Γ pc o l).length) o m1 hd.2 hpl2 hB (fr.keep k1)
        (hvars.keep k1 (Nat.le_refl _) (Nat.le_refl _)) hb.2 hpk.2 ho
    refine ⟨fun hf => ?_, fun ht => ?_, fun hn hck => ?_⟩
    · rcases evalB_or_some.1 hf with ⟨_, h⟩ | ⟨hv, hf⟩
      · cases h
      · obtain ⟨m1, r1, k1⟩ := h1.1 hv
        obtain ⟨m2, r2, k2⟩ := (right m1 k1).1 hf
        exact ⟨m2, reach_seq r1 r2, k1.trans' k2⟩
    · rcases evalB_or_some.1 ht with ⟨hv, _⟩ | ⟨hv, ht⟩
      · exact h1.2.1 hv
      · obtain ⟨m1, r1, k1⟩ := h1.1 hv
        exact r1.1 ((right m1 k1).2.1 ht)
    · rcases evalB_or_none.1 hn with hv | ⟨hv, hn⟩
      · exact h1.2.2 hv hck
      · obtain ⟨m1, r1, k1⟩ := h1.1 hv
        obtain ⟨m2, r2⟩ := (right m1 k1).2.2 hn hck
        exact ⟨m2, reach_seq r1 r2⟩
  | cmp op l r =>
    intro pc o m _ hpl hB fr hvars hb hpk ho
    rw [cD_cmp] at hpl hB ⊢
    simp only [Bool.false_eq_true, if_false, List.append_nil] at hpl hB ⊢
    obtain ⟨hplP, hplH⟩ := hpl.append
    simp only [List.length_append, List.length_cons, List.length_nil, Nat.zero_add, ← Nat.add_assoc] at hB ⊢
    have hc := cmp_ok lib Γ env F D op l r pc o m hplP (Nat.le_of_add_right_le hB) fr hvars hb hpk ho
    refine ⟨fun hf => ?_, fun ht => ?_, hc.2⟩
    · obtain ⟨m4, a, b, r4, k4, hbv, hstep⟩ := hc.1 false hf
      have s := hstep _ _ (placed_one hplH)
      rw [hbv] at s
      exact ⟨m4, reach_seq r4 (Reach.of_next (sys := sphinx p) s), k4⟩
    · obtain ⟨m4, a, b, r4, k4, hbv, hstep⟩ := hc.1 true ht
      have s := hstep _ _ (placed_one hplH)
      rw [hbv] at s
      exact r4.1 (Halts.halt (sys := sphinx p) s)


/-- the word `defeat` at `dA`, at or behind the frame, holds `v` -/
def DWord (p : Prog) (dA v : Nat) (m : Mem) (F : Nat) : Prop :=
  F ≤ dA ∧ dA + p.w ≤ m.size ∧ dA + p.w < 256 ^ p.w ∧ m.readLE dA p.w = v ∧ v < 256 ^ p.w

theorem DWord.keep {v : Nat} {m m' : Mem} {F a : Nat} (h : DWord p dA v m F) (k : Keep p.w m m' a) (ha : a ≤ F) : DWord p dA v m' F := by
  obtain ⟨h1, h2, h3, h4, h5⟩ := h
  exact ⟨h1, by rw [k.size]; exact h2, h3, by rw [k.read _ _ (by omega)]; exact h4, h5⟩

/-- the knowledge of the future `cD_ok_vd` asks for, of code that leaves at `e` when the condition (of value
`c`) is false and at the handler `v` when it is true -/
def Fut (p : Prog) (v : Nat) (m : Mem) (a : Nat) (c : Option Bool) (e : Nat) : Prop :=
  (∀ m', Halts (sphinx p) ⟨v, m'⟩) ∨
    ∀ m', Keep p.w m m' a →
      (c = some false → ¬ Halts (sphinx p) ⟨e, m'⟩) ∧ (c = some true → ¬ Halts (sphinx p) ⟨v, m'⟩)

/-- `!truth_is_defeat(c)` where the effective defeat is the word `defeat`: every conditional halt is
preceded by `j [defeat]`, which is taken exactly when the halt would fire.  That a jump over a halt that
does *not* fire is not taken needs to know the future: either the handler address is a `halt` (the world in
which a `try/stop` asks whether its body would be defeated), or neither way out of this code halts. -/
theorem cD_ok_vd (lib : Placed p B) (Γ : Gam) (env : Env) (F D v : Nat) :
    ∀ (b : Core.B) (pc o : Nat) (m : Mem),
      isD b = true →
      PlacedAt p pc (cD (cxOf p ck B dA) true Γ pc o b) →
      pc + (cD (cxOf p ck B dA) true Γ pc o b).length ≤ B →
      Fr p m F D → VarsOK p.w Γ env m F o → boundB (Γ.map Prod.fst) b = true → pkB p.w o b ≤ D → p.w ≤ o →
      DWord p dA v m F →
      ((∀ m', Halts (sphinx p) ⟨v, m'⟩) ∨
        ∀ m', Keep p.w m m' (F - o) →
          (evalB (256 ^ p.w) (8 * p.w) env b = some false → ¬ Halts (sphinx p) ⟨pc + (cD (cxOf p ck B dA) true Γ pc o b).length, m'⟩) ∧
          (evalB (256 ^ p.w) (8 * p.w) env b = some true → ¬ Halts (sphinx p) ⟨v, m'⟩)) →
      (evalB (256 ^ p.w) (8 * p.w) env b = some false →
        ∃ m', Reach (sphinx p) ⟨pc, m⟩ [] ⟨pc + (cD (cxOf p ck B dA) true Γ pc o b).length, m'⟩ ∧ Keep p.w m m' (F - o)) ∧
      (evalB (256 ^ p.w) (8 * p.w) env b = some true →
        ∃ m', Reach (sphinx p) ⟨pc, m⟩ [] ⟨v, m'⟩ ∧ Keep p.w m m' (F - o)) ∧
      (evalB (256 ^ p.w) (8 * p.w) env b = none → ck = true →
        ∃ m', Reach (sphinx p) ⟨pc, m⟩ [] ⟨B + off_division_by_zero, m'⟩) := by
  have hw := lib.hw
  intro b
  induction b with
  | lit x =>
    intro pc o m _ hpl hB fr _ _ _ _ hdw _
    obtain ⟨h1, h2, h3, h4, h5⟩ := hdw
    have hroom := fr.room
    cases x with
    | true =>
      refine ⟨fun h => by simp [evalB] at h, fun _ => ?_, fun h => by simp [evalB] at h⟩
      obtain ⟨c0, h⟩ := placed_cons (i := .j (.st dA)) hpl
      have c1 := placed_one h
      have s0 := step_j (m := m) c0 (ev_st (by unfold Prog.M; omega) (by omega))
      rw [h4] at s0
      exact ⟨m, Reach.jump_taken (sys := sphinx p) s0 (step_halt (m := m) c1), Keep.refl _ _ _⟩
    | false =>
      exact ⟨fun _ => ⟨m, Reach.refl, Keep.refl _ _ _⟩, fun h => by simp [evalB] at h, fun h => by simp [evalB] at h⟩
  | not b _ => intro pc o m hd; cases hd
  | and l r _ _ => intro pc o m hd; cases hd
  | or l r ihl ihr =>
    intro pc o m hd hpl hB fr hvars hb hpk ho hdw hfut
    simp only [isD, Bool.and_eq_true] at hd
    simp only [boundB, Bool.and_eq_true] at hb
    simp only [pkB, Nat.max_le] at hpk
    simp only [cD] at hpl hB hfut ⊢
    obtain ⟨hpl1, hpl2⟩ := hpl.append
    rw [List.length_append, ← Nat.add_assoc] at hB hfut ⊢
    have hroom := fr.room
    have runR : ∀ m1, Keep p.w m m1 (F - o) →
        Fut p v m1 (F - o) (evalB (256 ^ p.w) (8 * p.w) env r)
          (pc + (cD (cxOf p ck B dA) true Γ pc o l).length +
            (cD (cxOf p ck B dA) true Γ (pc + (cD (cxOf p ck B dA) true Γ pc o l).length) o r).length) → _ :=
      fun m1 k1 hf => ihr (pc + (cD (cxOf p ck B dA) true Γ pc o l).length) o m1 hd.2 hpl2 hB (fr.keep k1)
        (hvars.keep k1 (Nat.le_refl _) (Nat.le_refl _)) hb.2 hpk.2 ho (hdw.keep k1 (Nat.sub_le _ _)) hf
    have futR : evalB (256 ^ p.w) (8 * p.w) env l = some false → ∀ m1, Keep p.w m m1 (F - o) →
        Fut p v m1 (F - o) (evalB (256 ^ p.w) (8 * p.w) env r)
          (pc + (cD (cxOf p ck B dA) true Γ pc o l).length +
            (cD (cxOf p ck B dA) true Γ (pc + (cD (cxOf p ck B dA) true Γ pc o l).length) o r).length) := by
      intro hl m1 k1
      refine hfut.imp id (fun h m' k' => ?_)
      have := h m' (k1.trans' k')
      exact ⟨fun hr => this.1 (evalB_or_some.2 (Or.inr ⟨hl, hr⟩)), fun hr => this.2 (evalB_or_some.2 (Or.inr ⟨hl, hr⟩))⟩
    -- the future of the first disjunct: when it is false the second one runs, and ends where the whole does
    have futL : (evalB (256 ^ p.w) (8 * p.w) env l = some false →
          evalB (256 ^ p.w) (8 * p.w) env r = none → ck = true) →
        Fut p v m (F - o) (evalB (256 ^ p.w) (8 * p.w) env l) (pc + (cD (cxOf p ck B dA) true Γ pc o l).length) := by
      intro hnone
      refine hfut.imp id (fun h m1 k1 => ⟨fun hl => ?_, fun hl => (h m1 k1).2 (evalB_or_some.2 (Or.inl ⟨hl, rfl⟩))⟩)
      have h2 := runR m1 k1 (futR hl m1 k1)
      cases hr : evalB (256 ^ p.w) (8 * p.w) env r with
      | none =>
        obtain ⟨m2, r2⟩ := h2.2.2 hr (hnone hl hr)
        exact (r2.exec (terminal_never_halts lib m2).2.2.2.1).2
      | some x =>
        cases x with
        | false =>
          obtain ⟨m2, r2, k2⟩ := h2.1 hr
          exact (r2.exec ((h m2 (k1.trans' k2)).1 (evalB_or_some.2 (Or.inr ⟨hl, hr⟩)))).2
        | true =>
          obtain ⟨m2, r2, k2⟩ := h2.2.1 hr
          exact (r2.exec ((h m2 (k1.trans' k2)).2 (evalB_or_some.2 (Or.inr ⟨hl, hr⟩)))).2
    have runL := fun hnone => ihl pc o m hd.1 hpl1 (Nat.le_of_add_right_le hB) fr hvars hb.1 hpk.1 ho hdw (futL hnone)
    refine ⟨fun hf => ?_, fun ht => ?_, fun hn hck => ?_⟩
    · rcases evalB_or_some.1 hf with ⟨_, h⟩ | ⟨hv, hf⟩
      · cases h
      · obtain ⟨m1, r1, k1⟩ := (runL (fun _ hr => by rw [hr] at hf; cases hf)).1 hv
        obtain ⟨m2, r2, k2⟩ := (runR m1 k1 (futR hv m1 k1)).1 hf
        exact ⟨m2, reach_seq r1 r2, k1.trans' k2⟩
    · rcases evalB_or_some.1 ht with ⟨hv, _⟩ | ⟨hv, ht⟩
      · exact (runL (fun hl => by rw [hv] at hl; cases hl)).2.1 hv
      · obtain ⟨m1, r1, k1⟩ := (runL (fun _ hr => by rw [hr] at ht; cases ht)).1 hv
        obtain ⟨m2, r2, k2⟩ := (runR m1 k1 (futR hv m1 k1)).2.1 ht
        exact ⟨m2, reach_seq r1 r2, k1.trans' k2⟩
    · rcases evalB_or_none.1 hn with hv | ⟨hv, hn⟩
      · exact (runL (fun hl => by rw [hv] at hl; cases hl)).2.2 hv hck
      · obtain ⟨m1, r1, k1⟩ := (runL (fun _ _ => hck)).1 hv
        obtain ⟨m2, r2⟩ := (runR m1 k1 (futR hv m1 k1)).2.2 hn hck
        exact ⟨m2, reach_seq r1 r2⟩
  | cmp op l r =>
    intro pc o m _ hpl hB fr hvars hb hpk ho hdw hfut
    have hroom := fr.room
    rw [cD_cmp] at hpl hB hfut ⊢
    simp only [if_true] at hpl hB hfut ⊢
    obtain ⟨hplPJ, hplH⟩ := hpl.append
    obtain ⟨hplP, hplJ⟩ := hplPJ.append
    simp only [List.length_append, List.length_cons, List.length_nil, Nat.zero_add, ← Nat.add_assoc] at hB hfut hplH ⊢
    have hc := cmp_ok lib Γ env F D op l r pc o m hplP (Nat.le_of_add_right_le (Nat.le_of_add_right_le hB)) fr hvars hb hpk ho
    have key : ∀ bv, evalB (256 ^ p.w) (8 * p.w) env (.cmp op l r) = some bv →
        ∃ m4, Reach (sphinx p) ⟨pc, m⟩ [] ⟨pc + (opnds (cxOf p ck B dA) Γ pc o l r).length, m4⟩ ∧ Keep p.w m m4 (F - o) ∧
          Sphinx.step p ⟨pc + (opnds (cxOf p ck B dA) Γ pc o l r).length, m4⟩ =
            .jump ⟨pc + (opnds (cxOf p ck B dA) Γ pc o l r).length + 1, m4⟩ ⟨v, m4⟩ ∧
          Sphinx.step p ⟨pc + (opnds (cxOf p ck B dA) Γ pc o l r).length + 1, m4⟩ =
            if bv then .halt else .next ⟨pc + (opnds (cxOf p ck B dA) Γ pc o l r).length + 1 + 1, m4⟩ none := by
      intro bv hbv
      obtain ⟨m4, a, b, r4, k4, hab, hstep⟩ := hc.1 bv hbv
      obtain ⟨h1, h2, h3, h4, h5⟩ := hdw.keep k4 (Nat.sub_le _ _)
      have sj := step_j (m := m4) (placed_one hplJ) (ev_st (by unfold Prog.M; omega) (by omega))
      rw [h4] at sj
      exact ⟨m4, r4, k4, sj, hab ▸ hstep _ _ (placed_one hplH)⟩
    refine ⟨fun hf => ?_, fun ht => ?_, hc.2⟩
    · obtain ⟨m4, r4, k4, sj, s⟩ := key false hf
      have rn := Reach.of_next (sys := sphinx p) s
      -- the jump over a halt that does not fire is not taken: either way out of here halts only if `[defeat]` does
      have jn := Reach.jump_not_taken (sys := sphinx p) sj (fun hh => by
        rcases hfut with h | h
        · exact h m4
        · exact absurd hh (rn.exec ((h m4 k4).1 hf)).2)
      exact ⟨m4, reach_seq r4 (reach_seq jn rn), k4⟩
    · obtain ⟨m4, r4, k4, sj, s⟩ := key true ht
      exact ⟨m4, reach_seq r4 (Reach.jump_taken (sys := sphinx p) sj s), k4⟩

end

end HidVerif.Core
