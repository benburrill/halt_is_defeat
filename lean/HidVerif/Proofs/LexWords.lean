import HidVerif.Proofs.LexReaders
/-!
# Names and keywords as layout pieces (C12 v, vi)

A word (a letter or `_`, then word characters) in front of anything that is not a word character reads as
its keyword if it is one, else as a plain identifier; `@word` and `!word` for words that are not keywords
read as flavoured identifiers.  Of the keyword table it is used that its keys are distinct words.
-/
namespace HidVerif.Hid.Lex
open HidVerif.Gen

theorem readsAs_word (c : CP) (r : Line) (hc : isIdStart c = true) (hr : ∀ d ∈ r, isWord d = true) (rest : Line)
    (hrest : NotWordNext rest) :
    ReadsAs (c :: r) (match keywordOf (c :: r) with | some k => .enum k | none => .ident (c :: r) .none) rest := by
  have hi := (isIdStart_iff c).1 hc
  refine .of_head (idstart_not_space c hc) (by omega) (readToken_of_word hc ?_)
  show readIdent (c :: (r ++ rest)) = _
  rw [readIdent_plain c _ (by omega) (by omega), matchIdent_word c r rest hc hr hrest]
  dsimp only
  cases keywordOf (c :: r) <;> rfl

theorem readsAs_flavoured (p : CP) (fl : Flavor) (hp : (p = 64 ∧ fl = .you) ∨ (p = 33 ∧ fl = .defeat))
    (c : CP) (r : Line) (hc : isIdStart c = true) (hr : ∀ d ∈ r, isWord d = true)
    (hk : keywordOf (c :: r) = none) (rest : Line) (hrest : NotWordNext rest) :
    ReadsAs (p :: c :: r) (.ident (c :: r) fl) rest := by
  have hp' : p = 64 ∨ p = 33 := hp.imp And.left And.left
  refine .of_head (by rcases hp' with rfl | rfl <;> decide +kernel) (by rcases hp' with rfl | rfl <;> decide)
    (readToken_of_flavoured hp' hc ?_)
  show readIdent (p :: c :: (r ++ rest)) = _
  rw [readIdent_flavoured p _ hp', matchIdent_word c r rest hc hr hrest]
  dsimp only
  rw [hk, if_neg (by decide), Nat.add_comm]
  rcases hp with ⟨rfl, rfl⟩ | ⟨rfl, rfl⟩ <;> rfl

theorem selfDelim_ident (c : CP) (r : Line) (hc : isIdStart c = true) (hr : ∀ d ∈ r, isWord d = true)
    (hk : keywordOf (c :: r) = none) : SelfDelim (c :: r) (.ident (c :: r) .none) :=
  .of_readsAs fun rest hrest => by
    have := readsAs_word c r hc hr rest hrest.notWordNext
    rwa [hk] at this

theorem selfDelim_keyword (c : CP) (r : Line) (k : String) (hc : isIdStart c = true) (hr : ∀ d ∈ r, isWord d = true)
    (hk : keywordOf (c :: r) = some k) : SelfDelim (c :: r) (.enum k) :=
  .of_readsAs fun rest hrest => by
    have := readsAs_word c r hc hr rest hrest.notWordNext
    rwa [hk] at this

theorem selfDelim_flavoured (p : CP) (fl : Flavor) (hp : (p = 64 ∧ fl = .you) ∨ (p = 33 ∧ fl = .defeat))
    (c : CP) (r : Line) (hc : isIdStart c = true) (hr : ∀ d ∈ r, isWord d = true)
    (hk : keywordOf (c :: r) = none) : SelfDelim (p :: c :: r) (.ident (c :: r) fl) :=
  .of_readsAs fun rest hrest => readsAs_flavoured p fl hp c r hc hr hk rest hrest.notWordNext

theorem keywordOf_cps (s : String) : keywordOf (cps s) = keywordTokens.lookup s := by
  simp [keywordOf, cps, List.map_map, Function.comp_def]

theorem lookup_of_mem {α β : Type} [BEq α] [LawfulBEq α] {a : α} {b : β} :
    ∀ {l : List (α × β)}, (l.map Prod.fst).Pairwise (· ≠ ·) → (a, b) ∈ l → l.lookup a = some b
  | (a', b') :: l, hd, hm => by
    rw [List.map_cons, List.pairwise_cons] at hd
    rcases List.mem_cons.1 hm with e | hm
    · cases e; exact List.lookup_cons_self
    · have : (a == a') = false := beq_false_of_ne fun e => hd.1 a (List.mem_map.2 ⟨_, hm, rfl⟩) e.symm
      rw [List.lookup_cons, this]
      exact lookup_of_mem hd.2 hm

theorem keywords_distinct : (keywordTokens.map Prod.fst).Pairwise (· ≠ ·) := by decide +kernel

theorem keywords_words : ∀ kw ∈ keywordTokens, matchIdent (cps kw.1) = some (cps kw.1) := by decide +kernel

theorem keywords_table (kw : String × String) (hkw : kw ∈ keywordTokens) :
    matchIdent (cps kw.1) = some (cps kw.1) ∧ keywordOf (cps kw.1) = some kw.2 :=
  ⟨keywords_words kw hkw, by rw [keywordOf_cps]; exact lookup_of_mem keywords_distinct hkw⟩

theorem matchIdent_head {l name : Line} (h : matchIdent l = some name) : ∃ c r, l = c :: r ∧ isIdStart c = true := by
  cases l with
  | nil => cases h
  | cons c r =>
    refine ⟨c, r, rfl, ?_⟩
    cases hc : isIdStart c with
    | true => rfl
    | false => simp [matchIdent, hc] at h

theorem readToken_of_keyword {l : Line} {k : String} (hm : matchIdent l = some l) (hk : keywordOf l = some k) :
    readToken l = .ok (.enum k) l.length := by
  obtain ⟨c, r, rfl, hc⟩ := matchIdent_head hm
  have hi := (isIdStart_iff c).1 hc
  refine readToken_of_word hc ?_
  rw [readIdent_plain c r (by omega) (by omega), hm]
  dsimp only
  rw [hk]

theorem readIdent_flavoured_of_keyword {l : Line} {k : String} (p : CP) (hp : p = 64 ∨ p = 33) (hm : matchIdent l = some l)
    (hk : keywordOf l = some k) : readIdent (p :: l) = .err (1 + l.length) := by
  rw [readIdent_flavoured p _ hp, hm]
  dsimp only
  rw [hk]
  rfl

end HidVerif.Hid.Lex
