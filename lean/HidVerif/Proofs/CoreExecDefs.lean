import HidVerif.Proofs.CoreFrame
/-!
# Core compiler proofs: what the theorem about statement lists (`cS_ok`) says

`StmtOK` is its statement.  Two kinds of lists are covered: lists without `try` (bodies of `try` blocks and of
functions), and lists at the level of the you function (`youLevel`), where a Turing jump looks at the whole future,
so the caller has to say that the states in which the whole list can end never halt (`Safe`).  `Concl` is what is
concluded.
-/
namespace HidVerif.Core
open HidVerif HidVerif.PSys HidVerif.Sphinx HidVerif.Gen

section
variable {p : Prog} {ck : Bool} {B : Nat} {dA : Nat} {fa : FAddr} {fns : List FDecl}

/-- the functions are placed where `fa` says, below the library at `B`, and meet the static conditions of `wfProg` -/
structure FnsOK (p : Prog) (ck : Bool) (B dA : Nat) (fa : FAddr) (fns : List FDecl) : Prop where
  placed : ∀ fd ∈ fns, PlacedAt p (faddr fa fd.name) (funcCode (cxOf p ck B dA) fa (faddr fa fd.name) fd.dfn fd.params fd.body)
  inB : ∀ fd ∈ fns, faddr fa fd.name + (funcCode (cxOf p ck B dA) fa (faddr fa fd.name) fd.dfn fd.params fd.body).length ≤ B
  nodup : ∀ fd ∈ fns, fd.params.Nodup
  wf : ∀ fd ∈ fns, wfS fns fd.dfn fd.params fd.body = true
  plain : ∀ fd ∈ fns, fd.dfn = false → Core.plain fns fd.body = true
  dfnNoTry : ∀ fd ∈ fns, fd.dfn = true → noTry fd.body = true

/-- faults are only defined in checked builds; a callee's stack check compares with the frame peak
modulo the word, so the overflow verdict needs the peaks of the functions to be representable -/
def FaultOK (ck : Bool) (fns : List FDecl) (w : Nat) : Res → Prop
  | .div0 => ck = true
  | .ovf => ck = true ∧ ∀ fd ∈ fns, pkS w (entryOff w fd.params) fd.body < 256 ^ w
  | _ => True

/-- the world in which a `try/stop` asks whether its body would be defeated: every defeat handler halts
(vacuous unless `md` is `stop`) -/
def HaltW (p : Prog) (md : Md) : Prop := ∀ a v, md = .stop a v → ∀ m', Halts (sphinx p) ⟨v, m'⟩

theorem halt_at (lib : Placed p B) : p.code[B + off_halt]? = some .halt := by
  have h := lib.win 3 (by simp [code_all_is_win])
  simpa [code_all_is_win, off_halt, Nat.add_assoc] using h

theorem HaltW.halt (lib : Placed p B) {a : Nat} : HaltW p (.stop a (B + off_halt)) := by
  intro a' v e m'
  cases e
  exact Halts.halt (sys := sphinx p) (step_halt (m := m') (halt_at lib))

theorem HaltW.plain : HaltW p .plain := fun _ _ e => by cases e

/-- what a caller must say about the situation of a list `s` that ends (result `res`) at `pcEnd`.  First disjunct: `s`
has no `try`; where its defeat calls jump through the word at `dA` (`lp.vd`: the body of a `try/stop`, or of a defeat
function called from one) the situation knows that word, and since a Turing jump that is *not* taken needs to know the
future, either every handler is a `halt` (`HaltW`) or no state in which the list can end halts.  Second disjunct: `s` is
at the level of the you function and no state in which it can end halts.  `st`: the state section has the words `try_fp`
and `defeat` (`needsVD`), `defeat` holding the address of a `halt` between `try` blocks; `dc`: `s` may call defeat functions. -/
def Safe (p : Prog) (B dA ra : Nat) (lp : Jt) (md : Md) (st dc : Bool) (fns : List FDecl) (Γ : Gam) (env' : Env) (F D o pcEnd : Nat) (m : Mem) (res : Res) (s : S) : Prop :=
  (md.isYou = false ∧
      ((lp.vd = true → ∃ v, md = .stop dA v) ∧ (dc = true → (∃ v, md = .stop dA v) ∨ ∀ fd ∈ fns, fd.dfn = false)) ∧
      noTry s = true ∧
      (HaltW p md ∨ (lp.vd = true ∧ ∀ st', Post p B ra lp md Γ env' F D o pcEnd m res st' → ¬ Halts (sphinx p) st'))) ∨
    ((md.isYou = true ∧ dc = false ∧ (st = false → ∀ fd ∈ fns, fd.dfn = false)) ∧ lp.vd = false ∧ youLevel st fns s = true ∧
      (st = true → dA = F + p.w ∧ F + 2 * p.w ≤ m.size ∧ F + 2 * p.w < 256 ^ p.w ∧ md = .you (some (dA, B + off_halt))) ∧
      ∀ st', Post p B ra lp md Γ env' F D o pcEnd m res st' → ¬ Halts (sphinx p) st')

theorem Safe.sub' {lp : Jt} {md : Md} {st dc : Bool} {Γ Γ' : Gam} {env' : Env} {F D ra o o' e e' : Nat} {m m1 : Mem} {res : Res} {s k : S}
    (h : Safe p B dA ra lp md st dc fns Γ env' F D o e m res s)
    (hnt : noTry s = true → noTry k = true) (hyl : youLevel st fns s = true → youLevel st fns k = true)
    (km : Keep p.w m m1 (md.kb F p.w))
    (conv : ∀ st', Post p B ra lp md Γ' env' F D o' e' m res st' → Post p B ra lp md Γ env' F D o e m res st') :
    Safe p B dA ra lp md st dc fns Γ' env' F D o' e' m1 res k := by
  rcases h with ⟨hm, hv, h, hw⟩ | ⟨hm, hv, h1, hst, h2⟩
  · exact Or.inl ⟨hm, hv, hnt h, hw.imp id (fun hf => ⟨hf.1, fun st' hp => hf.2 st' (conv st' (hp.rebase km))⟩)⟩
  · exact Or.inr ⟨hm, hv, hyl h1, fun e => by rw [km.size]; exact hst e, fun st' hp => h2 st' (conv st' (hp.rebase km))⟩

theorem Safe.sub {lp : Jt} {md : Md} {st dc : Bool} {Γ Γ' : Gam} {env' : Env} {F D ra o o' e e' : Nat} {m m1 : Mem} {res : Res} {s k : S}
    (h : Safe p B dA ra lp md st dc fns Γ env' F D o e m res s)
    (hnt : noTry s = true → noTry k = true) (hyl : youLevel st fns s = true → youLevel st fns k = true)
    (km : Keep p.w m m1 F)
    (conv : ∀ st', Post p B ra lp md Γ' env' F D o' e' m res st' → Post p B ra lp md Γ env' F D o e m res st') :
    Safe p B dA ra lp md st dc fns Γ' env' F D o' e' m1 res k := h.sub' hnt hyl km.kb conv

theorem Safe.of_fin {lp lpX : Jt} {md : Md} {st dc : Bool} {Γ ΓX : Gam} {env' envX : Env} {F D ra o oX e eX : Nat} {m m0 : Mem}
    {res resX : Res} {s X : S}
    (h : Safe p B dA ra lp md st dc fns Γ env' F D o e m res s) (hvd : lpX.vd = lp.vd)
    (hnt : noTry s = true → noTry X = true) (hyl : youLevel st fns s = true → youLevel st fns X = true)
    (km : Keep p.w m m0 (md.kb F p.w)) (hnd : youLevel st fns s = true → res ≠ .defeat)
    (fin : (res = .defeat → lp.vd = true) → (∀ st', Post p B ra lp md Γ env' F D o e m res st' → ¬ Halts (sphinx p) st') →
      ∀ st1, Post p B ra lpX md ΓX envX F D oX eX m0 resX st1 → ¬ Halts (sphinx p) st1) :
    Safe p B dA ra lpX md st dc fns ΓX envX F D oX eX m0 resX X := by
  rcases h with ⟨hm, hv, h, hw⟩ | ⟨hm, hv, h1, hst, h2⟩
  · exact Or.inl ⟨hm, ⟨fun e => hv.1 (hvd ▸ e), hv.2⟩, hnt h, hw.imp id (fun hf => ⟨hvd.trans hf.1, fin (fun _ => hf.1) hf.2⟩)⟩
  · exact Or.inr ⟨hm, hvd.trans hv, hyl h1, fun e => by rw [km.size]; exact hst e, fin (fun e => absurd e (hnd h1)) h2⟩

/-- what `cS_ok` concludes.  First part: outside a `try/stop` body (`lp.vd = false`) a defeat halts the machine.  Second
part (its guard fails only in that case): the events are performed and the run ends where `Post` says, for a defeat
inside a `try/stop` body at the handler -/
def Concl (p : Prog) (B ra : Nat) (lp : Jt) (md : Md) (Γ : Gam) (env' : Env) (F D o pc pcEnd : Nat) (m : Mem) (tr : List Ev) (res : Res) : Prop :=
  (res = .defeat → lp.vd = false → Halts (sphinx p) ⟨pc, m⟩) ∧
  ((res = .defeat → lp.vd = true) → ∃ st', Reach (sphinx p) ⟨pc, m⟩ tr st' ∧ Post p B ra lp md Γ env' F D o pcEnd m res st')

theorem Concl.div0 {lp : Jt} {md : Md} {Γ : Gam} {env' : Env} {F D ra o pc e : Nat} {m m' : Mem} {tr : List Ev}
    (r : Reach (sphinx p) ⟨pc, m⟩ tr ⟨B + off_division_by_zero, m'⟩) : Concl p B ra lp md Γ env' F D o pc e m tr .div0 :=
  ⟨fun h => absurd h (by decide), fun _ => ⟨⟨_, m'⟩, r, rfl⟩⟩

theorem nd {res : Res} {P : Prop} (h : res ≠ .defeat) : res = .defeat → P := fun e => absurd e h

theorem Concl.pre' {lp : Jt} {md : Md} {Γ Γ' : Gam} {env' : Env} {F D ra o o' pc pc1 e e' : Nat} {m m1 : Mem} {tr0 tr : List Ev} {res : Res}
    (r : Reach (sphinx p) ⟨pc, m⟩ tr0 ⟨pc1, m1⟩) (km : Keep p.w m m1 (md.kb F p.w))
    (h : Concl p B ra lp md Γ' env' F D o' pc1 e' m1 tr res)
    (conv : ∀ st', Post p B ra lp md Γ' env' F D o' e' m res st' → Post p B ra lp md Γ env' F D o e m res st') :
    Concl p B ra lp md Γ env' F D o pc e m (tr0 ++ tr) res :=
  ⟨fun hd hv => r.1 (h.1 hd hv), fun hn => by
    obtain ⟨st', r2, hp⟩ := h.2 hn
    exact ⟨st', r.trans r2, conv st' (hp.rebase km)⟩⟩

theorem Concl.pre {lp : Jt} {md : Md} {Γ Γ' : Gam} {env' : Env} {F D ra o o' pc pc1 e e' : Nat} {m m1 : Mem} {tr0 tr : List Ev} {res : Res}
    (r : Reach (sphinx p) ⟨pc, m⟩ tr0 ⟨pc1, m1⟩) (km : Keep p.w m m1 F)
    (h : Concl p B ra lp md Γ' env' F D o' pc1 e' m1 tr res)
    (conv : ∀ st', Post p B ra lp md Γ' env' F D o' e' m res st' → Post p B ra lp md Γ env' F D o e m res st') :
    Concl p B ra lp md Γ env' F D o pc e m (tr0 ++ tr) res := Concl.pre' r km.kb h conv

theorem Concl.toYou {lp : Jt} {md1 : Md} {w : Option (Nat × Nat)} {Γ : Gam} {env' : Env} {F D ra o pc e : Nat} {m : Mem} {tr : List Ev} {res : Res}
    (hkb : md1.kb F p.w = F) (hd : DReg p (.you w) m F) (hres : res ≠ .defeat)
    (h : Concl p B ra lp md1 Γ env' F D o pc e m tr res) : Concl p B ra lp (.you w) Γ env' F D o pc e m tr res :=
  ⟨fun hdf => absurd hdf hres, fun _ => by obtain ⟨st', r, hp⟩ := h.2 (nd hres); exact ⟨st', r, hp.toYou hkb hd hres⟩⟩

theorem post_conv {lp : Jt} {md : Md} {Γ : Gam} {env' : Env} {F D ra o e e' : Nat} {m : Mem} {res : Res} (he : e' = e) :
    ∀ st', Post p B ra lp md Γ env' F D o e' m res st' → Post p B ra lp md Γ env' F D o e m res st' := by
  subst he; exact fun _ h => h

/-- the statement of `cS_ok` at fuel `fuel` (the induction hypothesis of its cases); `sb` is `Safe`'s `st` -/
def StmtOK (p : Prog) (ck : Bool) (B dA : Nat) (fa : FAddr) (fns : List FDecl) (fuel : Nat) : Prop :=
    ∀ (F D ra : Nat) (hra : ra < 256 ^ p.w) (lp : Jt) (hlp : lp.cont < 256 ^ p.w ∧ lp.brk < 256 ^ p.w) (md : Md) (sb dc : Bool)
      (s : S) (Γ : Gam) (env : Env) (pc o : Nat) (m : Mem) (env' : Env) (tr : List Ev) (res : Res),
      PlacedAt p pc (cS (cxOf p ck B dA) fa lp Γ pc o s) →
      pc + (cS (cxOf p ck B dA) fa lp Γ pc o s).length ≤ B →
      SInv p md Γ env m F D o ra → Disj p.w Γ → wfS fns dc (Γ.map Prod.fst) s = true →
      pkS p.w o s ≤ D → p.w ≤ o →
      exec (256 ^ p.w) (8 * p.w) fns p.w fuel D o env s = some (env', tr, res) → FaultOK ck fns p.w res →
      Safe p B dA ra lp md sb dc fns Γ env' F D o (pc + (cS (cxOf p ck B dA) fa lp Γ pc o s).length) m res s →
      Concl p B ra lp md Γ env' F D o pc (pc + (cS (cxOf p ck B dA) fa lp Γ pc o s).length) m tr res

theorem StmtOK.step {f : Nat} (ih : StmtOK p ck B dA fa fns f) {F D ra : Nat} (hra : ra < 256 ^ p.w) {lp : Jt}
    (hlp : lp.cont < 256 ^ p.w ∧ lp.brk < 256 ^ p.w) {md : Md} {sb dc : Bool} {s k : S} {Γ Γ' : Gam} {env1 env' : Env}
    {pc pc1 o o' e : Nat} {m m1 : Mem} {t0 tr : List Ev} {res : Res}
    (r : Reach (sphinx p) ⟨pc, m⟩ t0 ⟨pc1, m1⟩) (km : Keep p.w m m1 F)
    (hplk : PlacedAt p pc1 (cS (cxOf p ck B dA) fa lp Γ' pc1 o' k))
    (he : pc1 + (cS (cxOf p ck B dA) fa lp Γ' pc1 o' k).length = e) (hB : e ≤ B)
    (hinv1 : SInv p md Γ' env1 m1 F D o' ra) (hd1 : Disj p.w Γ') (hwf : wfS fns dc (Γ'.map Prod.fst) k = true)
    (hpk : pkS p.w o' k ≤ D) (ho' : p.w ≤ o')
    (hex : exec (256 ^ p.w) (8 * p.w) fns p.w f D o' env1 k = some (env', tr, res)) (hck : FaultOK ck fns p.w res)
    (hs : Safe p B dA ra lp md sb dc fns Γ env' F D o e m res s)
    (hnt : noTry s = true → noTry k = true) (hyl : youLevel sb fns s = true → youLevel sb fns k = true)
    (conv : ∀ st', Post p B ra lp md Γ' env' F D o' e m res st' → Post p B ra lp md Γ env' F D o e m res st') :
    Concl p B ra lp md Γ env' F D o pc e m (t0 ++ tr) res := by
  subst he
  exact Concl.pre r km (ih F D ra hra lp hlp md sb dc k Γ' env1 pc1 o' m1 env' tr res hplk hB hinv1 hd1 hwf hpk ho' hex hck
    (hs.sub hnt hyl km conv)) conv

theorem Concl.goto {lp : Jt} {md : Md} {Γ : Gam} {env' : Env} {F D ra o a pc e : Nat} {m : Mem} {tr : List Ev} {res : Res}
    (hpl : PlacedAt p a (goto pc)) (hpc : pc < 256 ^ p.w) (h : Concl p B ra lp md Γ env' F D o pc e m tr res) :
    Concl p B ra lp md Γ env' F D o a e m tr res := by
  simpa using Concl.pre' (goto_reach a pc m hpl hpc) (Keep.refl _ _ _) h (fun _ h => h)

theorem no_halt_of_cont {lp : Jt} {md : Md} {Γ : Gam} {envA env' : Env} {F D ra o a e : Nat} {m m1 : Mem} {tr : List Ev} {res : Res} {st : St}
    (cont : ∀ m2, SInv p md Γ envA m2 F D o ra → Keep p.w m m2 (md.kb F p.w) → Concl p B ra lp md Γ env' F D o a e m2 tr res)
    (km1 : Keep p.w m m1 (md.kb F p.w)) (hprem : res = .defeat → lp.vd = true)
    (h2 : ∀ st', Post p B ra lp md Γ env' F D o e m res st' → ¬ Halts (sphinx p) st')
    (hst : st.pc = a ∧ SInv p md Γ envA st.mem F D o ra ∧ Keep p.w m1 st.mem (md.kb F p.w)) : ¬ Halts (sphinx p) st := by
  obtain ⟨pc2, m2⟩ := st
  obtain ⟨hpc2, hi2, k12⟩ := hst
  dsimp only at hpc2 hi2 k12
  subst hpc2
  obtain ⟨st', r, hp⟩ := (cont m2 hi2 (km1.trans' k12)).2 hprem
  exact (r.exec (h2 st' (hp.rebase (km1.trans' k12)))).2

theorem handler_ok {f : Nat} (ih : StmtOK p ck B dA fa fns f) {F D ra : Nat} (hra : ra < 256 ^ p.w) {lp : Jt}
    (hlp : lp.cont < 256 ^ p.w ∧ lp.brk < 256 ^ p.w) (hvd : lp.vd = false) {sb : Bool} {w : Option (Nat × Nat)} {handler : S}
    {Γ : Gam} {env env' : Env} {pc o e : Nat} {m : Mem} {tr : List Ev} {res : Res}
    (hplh : plain fns handler = true) (hinv : SInv p .plain Γ env m F D o ra) (hdw : DReg p (.you w) m F) (hd : Disj p.w Γ)
    (hpl : PlacedAt p pc (cS (cxOf p ck B dA) fa lp Γ pc o handler))
    (he : pc + (cS (cxOf p ck B dA) fa lp Γ pc o handler).length = e) (hB : e ≤ B)
    (hwf : wfS fns false (Γ.map Prod.fst) handler = true) (hpk : pkS p.w o handler ≤ D) (ho : p.w ≤ o)
    (hex : exec (256 ^ p.w) (8 * p.w) fns p.w f D o env handler = some (env', tr, res)) (hck : FaultOK ck fns p.w res) :
    res ≠ .defeat ∧ Concl p B ra lp (.you w) Γ env' F D o pc e m tr res := by
  subst he
  have hnd : res ≠ .defeat := exec_no_defeat _ _ _ _ false _ _ _ _ _ _ _ _ (plain_youLevel _ _ _ hplh) hex
  exact ⟨hnd, (ih F D ra hra lp hlp .plain sb false handler Γ env pc o m env' tr res hpl hB hinv hd hwf hpk ho hex hck
    (Or.inl ⟨rfl, ⟨fun h => (by rw [hvd] at h; cases h), fun h => (by cases h)⟩, plain_noTry _ _ hplh, Or.inl HaltW.plain⟩)).toYou rfl hdw hnd⟩

theorem you_rest {f : Nat} (ih : StmtOK p ck B dA fa fns f) {F D ra : Nat} (hra : ra < 256 ^ p.w) {lp : Jt}
    (hlp : lp.cont < 256 ^ p.w ∧ lp.brk < 256 ^ p.w) (hvd : lp.vd = false) {sb : Bool} {w : Option (Nat × Nat)} {k : S}
    {Γ : Gam} {env env' : Env} {pc o e : Nat} {m m1 : Mem} {tr : List Ev} {res : Res}
    (hsf : sb = false → ∀ fd ∈ fns, fd.dfn = false) (hyk : youLevel sb fns k = true)
    (hst : sb = true → dA = F + p.w ∧ F + 2 * p.w ≤ m.size ∧ F + 2 * p.w < 256 ^ p.w ∧ Md.you w = .you (some (dA, B + off_halt)))
    (hpl : PlacedAt p pc (cS (cxOf p ck B dA) fa lp Γ pc o k)) (he : pc + (cS (cxOf p ck B dA) fa lp Γ pc o k).length = e) (hB : e ≤ B)
    (hd : Disj p.w Γ) (hwf : wfS fns false (Γ.map Prod.fst) k = true) (hpk : pkS p.w o k ≤ D) (ho : p.w ≤ o)
    (hinv : SInv p (.you w) Γ env m1 F D o ra) (km : Keep p.w m m1 ((Md.you w).kb F p.w))
    (hex : exec (256 ^ p.w) (8 * p.w) fns p.w f D o env k = some (env', tr, res)) (hck : FaultOK ck fns p.w res)
    (hfin : ∀ st', Post p B ra lp (.you w) Γ env' F D o e m res st' → ¬ Halts (sphinx p) st') :
    res ≠ .defeat ∧ Concl p B ra lp (.you w) Γ env' F D o pc e m1 tr res := by
  subst he
  exact ⟨exec_no_defeat _ _ _ _ _ _ _ _ _ _ _ _ _ hyk hex,
    ih F D ra hra lp hlp (.you w) sb false k Γ env pc o m1 env' tr res hpl hB hinv hd hwf hpk ho hex hck
      (Or.inr ⟨⟨rfl, rfl, hsf⟩, hvd, hyk, fun e => by rw [km.size]; exact hst e, fun st' hp => hfin st' (hp.rebase km)⟩)⟩

end

end HidVerif.Core
