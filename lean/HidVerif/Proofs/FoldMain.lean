import HidVerif.Proofs.Fold
/-!
# C14: the typechecker's constant folding (`evalZ`, on unbounded integers) and run-time evaluation on words (`evalW`)
agree on every expression none of whose intermediate values leaves the signed word range (`InRange`)
-/
namespace HidVerif.Hid

theorem b2i_range (p : Bool) : 0 ≤ b2i p ∧ b2i p ≤ 1 := by cases p <;> simp [b2i]

theorem inRange_val (H : Int) (hH : 256 ≤ H) (e : CExpr) (h : InRange H e) (v : Int) (hv : evalZ e = some v) :
    -H ≤ v ∧ v < H := by
  cases e with
  | lit x => simp [evalZ] at hv; subst hv; exact h
  | bin op l r => exact h.2.2 v hv
  | un op e => exact h.2 v hv
  | toByte e =>
    simp only [evalZ, Option.map_eq_some_iff] at hv
    obtain ⟨a, _, rfl⟩ := hv
    have := Int.emod_nonneg a (by omega : (256 : Int) ≠ 0)
    have := Int.emod_lt_of_pos a (by omega : (0 : Int) < 256)
    omega
  | toBool e =>
    simp only [evalZ, Option.map_eq_some_iff] at hv
    obtain ⟨a, _, rfl⟩ := hv
    have := b2i_range (decide (a ≠ 0)); omega

theorem wrap_mod256 (E : Env) (hM : 0 < E.M) (hdiv : E.M % 256 = 0) (a : Int) :
    E.wrap a % 256 = E.wrap (a % 256) := by
  apply wrap_of_cast E hM
  rw [Int.natCast_emod, wrap_cast E hM a]
  have hd : (256 : Int) ∣ (E.M : Int) := by
    have : (256 : Nat) ∣ E.M := Nat.dvd_of_mod_eq_zero hdiv
    exact Int.natCast_dvd_natCast.2 this
  have h256c : ((256 : Nat) : Int) = 256 := rfl
  rw [h256c, Int.emod_emod_of_dvd a hd]
  have h1 := Int.emod_nonneg a (by omega : (256 : Int) ≠ 0)
  have h2 := Int.emod_lt_of_pos a (by omega : (0 : Int) < 256)
  exact (Int.emod_eq_of_lt h1 (by omega)).symm

/-- `+`, `-`, `*` because `wrap` commutes with them, the other operators because `toS` recovers in-range operands and
`wrap` is injective on them -/
theorem binArith_wrap (E : Env) (hM : 2 ≤ E.M) (heven : E.M % 2 = 0) (op : BinOp) (a b : Int)
    (a1 : -(E.H : Int) ≤ a) (a2 : a < E.H) (b1 : -(E.H : Int) ≤ b) (b2 : b < E.H) :
    binArith E op (E.wrap a) (E.wrap b) = (evalZ (.bin op (.lit a) (.lit b))).map E.wrap := by
  have hM0 : 0 < E.M := by omega
  have ta := wrap_toS E hM heven a a1 a2
  have tb := wrap_toS E hM heven b b1 b2
  have hb0 := wrap_eq_zero_iff E hM heven b b1 b2
  have ha0 := wrap_eq_zero_iff E hM heven a a1 a2
  have hinj := wrap_inj E hM heven a b a1 a2 b1 b2
  have hblt : E.wrap b % E.M = E.wrap b := Nat.mod_eq_of_lt (wrap_lt E hM0 b)
  simp only [evalZ]
  cases op with
  | add => simp [binArith, wrap_add E a b hM0]
  | sub => simp [binArith, wrap_sub E a b hM0]
  | mul => simp [binArith, wrap_mul E a b hM0]
  | div | mod =>
    by_cases hb : b = 0
    · simp [binArith, hb, hblt, hb0]
    · simp [binArith, hb, hblt, hb0, ta, tb]
  | lt | gt | le | ge => simp [binArith, ta, tb, wrap_b2i E hM]
  | eq | ne => by_cases hab : a = b <;> simp [binArith, wrap_b2i E hM, hab, hinj]
  | and | or => by_cases ha : a = 0 <;> by_cases hb : b = 0 <;> simp [binArith, wrap_b2i E hM, ha, hb, ha0, hb0]

theorem fold_agrees_of_dvd (E : Env) (hM : 512 ≤ E.M) (hdiv : E.M % 256 = 0)
    (e : CExpr) (h : InRange E.H e) : evalW E e = (evalZ e).map E.wrap := by
  have heven : E.M % 2 = 0 := by omega
  have hH : (256 : Int) ≤ (E.H : Int) := by unfold Env.H; omega
  have hM0 : 0 < E.M := by omega
  have hM2 : 2 ≤ E.M := by omega
  induction e with
  | lit v => simp [evalW, evalZ]
  | toByte e ih =>
    simp only [InRange] at h
    simp only [evalW, evalZ, ih h]
    cases evalZ e with
    | none => rfl
    | some a => simp [wrap_mod256 E hM0 hdiv a]
  | toBool e ih =>
    simp only [InRange] at h
    simp only [evalW, evalZ, ih h]
    cases hz : evalZ e with
    | none => rfl
    | some a =>
      obtain ⟨r1, r2⟩ := inRange_val E.H hH e h a hz
      have hz0 := wrap_eq_zero_iff E hM2 heven a r1 r2
      simp only [Option.map_some, wrap_b2i E hM2]
      by_cases ha : a = 0 <;> simp [ha, hz0]
  | un op e ih =>
    simp only [InRange] at h
    obtain ⟨he, hres⟩ := h
    simp only [evalW, evalZ, ih he]
    cases hz : evalZ e with
    | none => rfl
    | some a =>
      obtain ⟨r1, r2⟩ := inRange_val E.H hH e he a hz
      cases op with
      | pos => simp
      | neg =>
        simp only [Option.map_some]
        have := wrap_sub E 0 a hM0
        rw [wrap_zero, Nat.zero_add] at this
        simp [this]
      | not =>
        have hz0 := wrap_eq_zero_iff E hM2 heven a r1 r2
        simp only [Option.map_some, wrap_b2i E hM2]
        by_cases ha : a = 0 <;> simp [ha, hz0]
  | bin op l r ihl ihr =>
    simp only [InRange] at h
    obtain ⟨hl, hr, hres⟩ := h
    simp only [evalW, ihl hl, ihr hr]
    cases hzl : evalZ l with
    | none => simp [evalZ, hzl]
    | some a =>
      cases hzr : evalZ r with
      | none => simp [evalZ, hzl, hzr]
      | some b =>
        obtain ⟨a1, a2⟩ := inRange_val E.H hH l hl a hzl
        obtain ⟨b1, b2⟩ := inRange_val E.H hH r hr b hzr
        simp only [Option.map_some, evalZ, hzl, hzr]
        simpa only [evalZ] using binArith_wrap E hM2 heven op a b a1 a2 b1 b2

theorem fold_agrees (E : Env) (hM : 512 ≤ E.M) (heven : E.M % 2 = 0) (hdiv : E.M % 256 = 0)
    (e : CExpr) (h : InRange E.H e) : evalW E e = (evalZ e).map E.wrap :=
  fold_agrees_of_dvd E hM hdiv e h

end HidVerif.Hid
