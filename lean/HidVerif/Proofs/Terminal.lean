import HidVerif.Proofs.Lib
import HidVerif.Proofs.Driver
/-!
# The terminal loops of the runtime library never halt (C03), and what the stubs emit (C05)
-/
namespace HidVerif.Sphinx
open HidVerif HidVerif.PSys HidVerif.Gen

theorem Placed.win {p : Prog} {B : Nat} (hp : Placed p B) :
    PlacedAt p (B + off_all_is_win) (code_all_is_win p.w B) := hp.routine (by simp [stdlibRoutineCode])
theorem Placed.broken {p : Prog} {B : Nat} (hp : Placed p B) :
    PlacedAt p (B + off_all_is_broken) (code_all_is_broken p.w B) := hp.routine (by simp [stdlibRoutineCode])
theorem Placed.so {p : Prog} {B : Nat} (hp : Placed p B) :
    PlacedAt p (B + off_stack_overflow) (code_stack_overflow p.w B) := hp.routine (by simp [stdlibRoutineCode])
theorem Placed.dz {p : Prog} {B : Nat} (hp : Placed p B) :
    PlacedAt p (B + off_division_by_zero) (code_division_by_zero p.w B) := hp.routine (by simp [stdlibRoutineCode])
theorem Placed.oob {p : Prog} {B : Nat} (hp : Placed p B) :
    PlacedAt p (B + off_out_of_bounds) (code_out_of_bounds p.w B) := hp.routine (by simp [stdlibRoutineCode])
theorem Placed.nlp {p : Prog} {B : Nat} (hp : Placed p B) :
    PlacedAt p (B + off_nonlocal_preempt) (code_nonlocal_preempt p.w B) := hp.routine (by simp [stdlibRoutineCode])

def tntPc (B : Nat) : Nat := B + off_all_is_win + 1

theorem tnt_never_halts {p : Prog} {B : Nat} (hp : Placed p B) (m : Mem) :
    ¬ Halts (sphinx p) ⟨tntPc B, m⟩ := by
  have c1 := hp.win.get 1 rfl; have c2 := hp.win.get 2 rfl
  have hlt := hp.lt (off_all_is_win + 1) (by decide)
  -- `tnt: sleep; j tnt`: the two addresses are closed under stepping
  apply safe_not_halts (sys := sphinx p)
    (fun s => s.pc = B + off_all_is_win + 1 ∨ s.pc = B + off_all_is_win + 1 + 1)
  · rintro ⟨pc, mem⟩ (h | h) <;> simp only at h <;> subst h
    · rw [show (sphinx p).step _ = _ from step_sleep c1 (ev_imm 32639)]; exact Or.inr rfl
    · rw [show (sphinx p).step _ = _ from step_j c2 (ev_imm_lt (by omega))]; exact Or.inr (Or.inl rfl)
  · left; rfl

theorem stub_reach {p : Prog} {pc target : Nat} {f : String} {m : Mem}
    (h : PlacedAt p pc [.flag f, .j (.imm target), .halt]) (ht : target < 256 ^ p.w) :
    Reach (sphinx p) ⟨pc, m⟩ [Ev.flag f] ⟨target, m⟩ :=
  (Reach.of_next (sys := sphinx p) (step_flag (h.get 0 rfl))).trans
    (jump_halt (h.get 1 rfl) (h.get 2 rfl) (ev_imm_lt ht))

theorem all_is_win_reach {p : Prog} {B : Nat} (hp : Placed p B) (m : Mem) :
    Reach (sphinx p) ⟨B + off_all_is_win, m⟩ [Ev.flag "win"] ⟨tntPc B, m⟩ :=
  Reach.of_next (sys := sphinx p) (step_flag (hp.win.get 0 rfl))

theorem all_is_broken_reach {p : Prog} {B : Nat} (hp : Placed p B) (m : Mem) :
    Reach (sphinx p) ⟨B + off_all_is_broken, m⟩ [Ev.flag "error"] ⟨tntPc B, m⟩ :=
  stub_reach hp.broken (hp.lt (off_all_is_win + 1) (by decide))

/-- the four error stubs: exactly two flags, then the terminal loop -/
theorem error_stub_reach {p : Prog} {B : Nat} (hp : Placed p B) (m : Mem) :
    Reach (sphinx p) ⟨B + off_stack_overflow, m⟩ [Ev.flag "stack_overflow", Ev.flag "error"] ⟨tntPc B, m⟩ ∧
    Reach (sphinx p) ⟨B + off_division_by_zero, m⟩ [Ev.flag "division_by_zero", Ev.flag "error"] ⟨tntPc B, m⟩ ∧
    Reach (sphinx p) ⟨B + off_out_of_bounds, m⟩ [Ev.flag "out_of_bounds", Ev.flag "error"] ⟨tntPc B, m⟩ ∧
    Reach (sphinx p) ⟨B + off_nonlocal_preempt, m⟩ [Ev.flag "nonlocal_preempt", Ev.flag "error"] ⟨tntPc B, m⟩ :=
  have hb := all_is_broken_reach hp m
  have hlt : B + off_all_is_broken < 256 ^ p.w := hp.lt _ (by decide)
  ⟨(stub_reach hp.so hlt).trans hb, (stub_reach hp.dz hlt).trans hb, (stub_reach hp.oob hlt).trans hb,
    (stub_reach hp.nlp hlt).trans hb⟩

theorem terminal_never_halts {p : Prog} {B : Nat} (hp : Placed p B) (m : Mem) :
    ¬ Halts (sphinx p) ⟨B + off_all_is_win, m⟩ ∧ ¬ Halts (sphinx p) ⟨B + off_all_is_broken, m⟩ ∧
    ¬ Halts (sphinx p) ⟨B + off_stack_overflow, m⟩ ∧ ¬ Halts (sphinx p) ⟨B + off_division_by_zero, m⟩ ∧
    ¬ Halts (sphinx p) ⟨B + off_out_of_bounds, m⟩ ∧ ¬ Halts (sphinx p) ⟨B + off_nonlocal_preempt, m⟩ := by
  have t := tnt_never_halts hp m
  obtain ⟨h1, h2, h3, h4⟩ := error_stub_reach hp m
  exact ⟨((all_is_win_reach hp m).exec t).2, ((all_is_broken_reach hp m).exec t).2,
    (h1.exec t).2, (h2.exec t).2, (h3.exec t).2, (h4.exec t).2⟩

/-- **S5 for Sphinx**: with the library in place, whatever `hidmodel vm` reports is a true
statement about the committed timeline of the program. -/
theorem vm_sound {p : Prog} {B : Nat} (hp : Placed p B) (fuel : Nat) (s₀ : St) :
    Sound (sphinx p) (fun s => s.pc == tntPc B) s₀
      ((sphinx p).run (fun s => s.pc == tntPc B) (fun _ => #[]) fuel s₀) := by
  apply run_sound
  intro s hs
  obtain ⟨pc, m⟩ := s
  have : pc = tntPc B := by simpa using hs
  subst this
  exact tnt_never_halts hp m

end HidVerif.Sphinx
