import HidVerif.Proofs.WriteIntSpec
/-!
# Entry-to-return specifications of `write_state_byte_array`, `write_const_byte_array`,
`write_string` and `write_bool` — every length (including 0), every `w ≥ 2`
-/
namespace HidVerif.Sphinx
open HidVerif HidVerif.PSys HidVerif.Gen

section
variable {p : Prog} {pc : Nat} {m : Mem} {F r0 r1 r2 : Nat}

theorem arr_entry (hr : Regs p.w m F r0 r1 r2) (hw : 2 ≤ p.w) {lp dn a k : Nat}
    (c0 : p.code[pc]? = some (.load true .state (2 * p.w) (.st p.w) (some (.imm (256 ^ p.w - 3 * p.w)))))
    (c1 : p.code[pc + 1]? = some (.load true .state (3 * p.w) (.st p.w) (some (.imm (256 ^ p.w - 2 * p.w)))))
    (c2 : p.code[pc + 2]? = some (.j (.imm lp)))
    (c3 : p.code[pc + 3]? = some (.hcond .hgt (.st (3 * p.w)) (.imm 0)))
    (c4 : p.code[pc + 4]? = some (.j (.imm dn))) (c5 : p.code[pc + 5]? = some .halt)
    (cl : p.code[lp]? = some (.hcond .hle (.st (3 * p.w)) (.imm 0)))
    (hlp : lp < 256 ^ p.w) (hdn : dn < 256 ^ p.w)
    (hk : k < 256 ^ p.w / 2) (hF : 6 * p.w ≤ F) (hFM : F < 256 ^ p.w) (hFsz : F ≤ m.size)
    (haddr : m.readLE (F - 3 * p.w) p.w = a) (hlen : m.readLE (F - 2 * p.w) p.w = k) :
    ∃ m1, Reach (sphinx p) ⟨pc, m⟩ [] ⟨if k = 0 then dn else lp, m1⟩ ∧ Regs p.w m1 F a k r2 ∧
      Same p.w m m1 0 0 := by
  have s0 := hr.step_ldfp hw c0 (.inl rfl) (Nat.le_mul_of_pos_left p.w (by decide)) (le_frame (by decide) hF) hFM hFsz
  rw [haddr] at s0
  have hr0 := hr.set0 a s0.2
  -- `[fp-2w]` may lie inside `r2`, so the first write is tracked explicitly
  have s1 := hr0.step_ldfp hw c1 (.inr (.inl rfl)) (Nat.le_mul_of_pos_left p.w (by decide)) (le_frame (by decide) hF) hFM
    (by simpa using hFsz)
  rw [Mem.readLE_writeLE_disj _ _ _ _ _ _ (by omega), hlen] at s1
  obtain ⟨m1, x1, hr1, sm1⟩ := hr0.wr1 s1
  exact ⟨m1, (Reach.of_next (sys := sphinx p) s0.1).trans (x1.trans (dispatch hr1 hw hk c2 c3 c4 c5 cl hlp hdn)),
    hr1, (Same.wrReg m a (.inl rfl)).trans0 sm1⟩
end

/-- `write(byte[])` for an array in the state section: address in `[fp-3w]`, length in `[fp-2w]`. -/
theorem write_state_byte_array_spec (p : Prog) (B : Nat) (hp : Placed p B)
    (m : Mem) (F a k ra r0 r1 r2 : Nat)
    (hk : k < 256 ^ p.w / 2) (ha : a + k < 256 ^ p.w) (h5 : 5 * p.w ≤ a) (hasz : a + k ≤ m.size)
    (hF : 6 * p.w ≤ F) (hFM : F < 256 ^ p.w) (hFsz : F ≤ m.size)
    (hr : Regs p.w m F r0 r1 r2)
    (haddr : m.readLE (F - 3 * p.w) p.w = a) (hlen : m.readLE (F - 2 * p.w) p.w = k)
    (hra : m.readLE (F - p.w) p.w = ra) :
    ∃ m', Reach (sphinx p) ⟨B + off_write_state_byte_array, m⟩ (outs (bytesAt m a k)) ⟨ra, m'⟩ ∧
      Same p.w m m' 0 0 := by
  have hw := hp.hw
  have hpl := hp.wsba
  have hdn := hp.addr_lt off_write_state_byte_array 13 (by decide)
  obtain ⟨m1, x, hr1, sm1⟩ := arr_entry hr hw (hpl.get 0 rfl) (hpl.get 1 rfl) (hpl.get 2 rfl) (hpl.get 3 rfl)
    (hpl.get 4 rfl) (hpl.get 5 rfl) (hpl.get 6 rfl) (hp.addr_lt _ 6 (by decide)) hdn hk hF hFM hFsz haddr hlen
  obtain ⟨m', y, sm'⟩ := bytes_out .state (B + off_write_state_byte_array + 6) hw hdn hp.wsba_loop
    hk ha (show a + k ≤ m1.size by rw [sm1.1]; exact hasz) (fun _ => h5) hF hFM (sm1.1 ▸ hFsz)
    (sm1.ra hF (Nat.zero_le _) hra) hr1
  rw [show bytesAt (secMem p m1 .state) a k = bytesAt m a k from sm1.bytesAt _ _ h5 (.inr (Nat.zero_le _))] at y
  exact ⟨m', x.trans y, sm1.trans0 sm'⟩

theorem Placed.wcba {p : Prog} {B : Nat} (hp : Placed p B) :
    PlacedAt p (B + off_write_const_byte_array) (code_write_const_byte_array p.w B) :=
  hp.routine (by simp [stdlibRoutineCode])

/-- `write(string)`: pointer to the length-prefixed constant in `[fp-2w]`. -/
theorem write_string_spec (p : Prog) (B : Nat) (hp : Placed p B)
    (m : Mem) (F s k ra r0 r1 r2 : Nat)
    (hk : k < 256 ^ p.w / 2) (hs : s + p.w + k < 256 ^ p.w) (hssz : s + p.w + k ≤ p.const.size)
    (hF : 6 * p.w ≤ F) (hFM : F < 256 ^ p.w) (hFsz : F ≤ m.size)
    (hr : Regs p.w m F r0 r1 r2)
    (hptr : m.readLE (F - 2 * p.w) p.w = s) (hlen : p.const.readLE s p.w = k)
    (hra : m.readLE (F - p.w) p.w = ra) :
    ∃ m', Reach (sphinx p) ⟨B + off_write_string, m⟩ (outs (bytesAt p.const (s + p.w) k)) ⟨ra, m'⟩ ∧
      Same p.w m m' 0 0 := by
  have hw := hp.hw
  have hpl := hp.wstr
  have hlp := hp.addr_lt off_write_string 7 (by decide)
  have hdn := hp.addr_lt off_write_string 14 (by decide)
  -- r0 := [fp-2w]; r1 := {r0}; r0 += w
  have s0 := hr.step_ldfp hw (hpl.get 0 rfl) (.inl rfl) (Nat.le_mul_of_pos_left p.w (by decide)) (le_frame (by decide) hF) hFM hFsz
  rw [hptr] at s0
  obtain ⟨m0, x0, hr0, sm0⟩ := hr.wr0 s0
  have ⟨d1, d2⟩ := hr0.wr_ok hw (.inr (.inl rfl))
  obtain ⟨m1, x1, hr1, sm1⟩ := hr0.wr1
    ⟨(step_load (sec := .const) (a := s) (k := p.w) (hpl.get 1 rfl) (hr0.ev_r0 hw) rfl
      (Nat.mod_eq_of_lt (show s < 256 ^ p.w from
        Nat.lt_of_le_of_lt (Nat.le_trans (Nat.le_add_right _ _) (Nat.le_add_right _ _)) hs))
      rfl (show s + p.w ≤ p.const.size from Nat.le_trans (Nat.le_add_right _ _) hssz) d1 d2).trans
      (by rw [← hlen]; rfl), hlen ▸ Mem.readLE_lt _ _ _⟩
  obtain ⟨m2, x2, hr2, sm2⟩ := hr1.wr0
    (hr1.step_alu hw (hpl.get 2 rfl) (.inl rfl) (hr1.ev_r0 hw) (ev_imm_lt (w_lt_pow p.w))
      (alu_add_lt (Nat.lt_of_le_of_lt (Nat.le_add_right _ _) hs)))
  have sm := (sm0.trans0 sm1).trans0 sm2
  have d := dispatch hr2 hw hk (hpl.get 3 rfl) (hpl.get 4 rfl) (hpl.get 5 rfl) (hpl.get 6 rfl)
    (hpl.get 7 rfl) hlp hdn
  obtain ⟨m', y, sm'⟩ := bytes_out .const (B + off_write_string + 7) hw hdn hp.wstr_loop
    hk hs (show s + p.w + k ≤ p.const.size from hssz) (fun h => nomatch h) hF hFM (sm.1 ▸ hFsz)
    (sm.ra hF (Nat.zero_le _) hra) hr2
  exact ⟨m', x0.trans (x1.trans (x2.trans (d.trans y))), sm.trans0 sm'⟩

/-- `write(const byte[])`: address (into the const section) in `[fp-3w]`, length in `[fp-2w]`. -/
theorem write_const_byte_array_spec (p : Prog) (B : Nat) (hp : Placed p B)
    (m : Mem) (F a k ra r0 r1 r2 : Nat)
    (hk : k < 256 ^ p.w / 2) (ha : a + k < 256 ^ p.w) (hasz : a + k ≤ p.const.size)
    (hF : 6 * p.w ≤ F) (hFM : F < 256 ^ p.w) (hFsz : F ≤ m.size)
    (hr : Regs p.w m F r0 r1 r2)
    (haddr : m.readLE (F - 3 * p.w) p.w = a) (hlen : m.readLE (F - 2 * p.w) p.w = k)
    (hra : m.readLE (F - p.w) p.w = ra) :
    ∃ m', Reach (sphinx p) ⟨B + off_write_const_byte_array, m⟩ (outs (bytesAt p.const a k)) ⟨ra, m'⟩ ∧
      Same p.w m m' 0 0 := by
  have hw := hp.hw
  have hpl := hp.wcba
  have hdn := hp.addr_lt off_write_string 14 (by decide)
  obtain ⟨m1, x, hr1, sm1⟩ := arr_entry hr hw (hpl.get 0 rfl) (hpl.get 1 rfl) (hpl.get 2 rfl) (hpl.get 3 rfl)
    (hpl.get 4 rfl) (hpl.get 5 rfl) (hp.wstr.get 7 rfl) (hp.addr_lt _ 7 (by decide)) hdn hk hF hFM hFsz haddr hlen
  obtain ⟨m', y, sm'⟩ := bytes_out .const (B + off_write_string + 7) hw hdn hp.wstr_loop
    hk ha (show a + k ≤ p.const.size from hasz) (fun h => nomatch h) hF hFM (sm1.1 ▸ hFsz)
    (sm1.ra hF (Nat.zero_le _) hra) hr1
  exact ⟨m', x.trans y, sm1.trans0 sm'⟩

theorem Placed.wb {p : Prog} {B : Nat} (hp : Placed p B) :
    PlacedAt p (B + off_write_bool) (code_write_bool p.w B) := hp.routine (by simp [stdlibRoutineCode])

def boolText (b : Nat) : List Nat := if b = 0 then [102, 97, 108, 115, 101] else [116, 114, 117, 101]

/-- `write(bool)`: the one-byte argument sits directly below the return address.  Any non-zero
byte prints `true` (the compiler only ever passes 0 or 1, see `bool_norm_exact`). -/
theorem write_bool_spec (p : Prog) (B : Nat) (hp : Placed p B)
    (m : Mem) (F ra r0 r1 r2 : Nat)
    (hF : 6 * p.w ≤ F) (hFM : F < 256 ^ p.w) (hFsz : F ≤ m.size)
    (hr : Regs p.w m F r0 r1 r2) (hra : m.readLE (F - p.w) p.w = ra) :
    ∃ m', Reach (sphinx p) ⟨B + off_write_bool, m⟩ (outs (boolText (m.rd (F - p.w - 1)))) ⟨ra, m'⟩ ∧
      Same p.w m m' 0 0 := by
  have hw := hp.hw
  have hM := pow_ge2 p.w hw
  have hpl := hp.wb
  have h11 := hp.addr_lt off_write_bool 11 (by decide)
  generalize hb : m.rd (F - p.w - 1) = b
  rw [Nat.sub_sub] at hb
  -- r0 := the byte at [fp - (w+1)]
  have ⟨d1, d2⟩ := hr.wr_ok hw (.inl rfl)
  obtain ⟨m1, x0, hr1, sm1⟩ := hr.wr0
    ⟨(step_load (sec := .state) (k := 1) (hpl.get 0 rfl) (hr.ev_fp hw) (ev_imm (pc := B + off_write_bool + 0) (m := m) _)
      (add_neg_mod (by omega) (by omega) hFM) rfl (show F - (p.w + 1) + 1 ≤ m.size by omega) d1 d2).trans
      (by rw [Mem.readLE_one]; subst hb; rfl),
      Nat.lt_of_lt_of_le (hb ▸ Mem.rd_lt m _) (Nat.le_trans (by decide) hM)⟩
  have hra1 := sm1.ra hF (Nat.zero_le _) hra
  have z : ∀ pc, evalArg p ⟨pc, m1⟩ (.imm 0) = some 0 := fun _ => ev_imm_small hw (by decide)
  have c11 := hpl.get 11 rfl
  by_cases hb0 : b = 0
  · -- false: the jump to `is_true` is not taken, since `heq [r0], 0` there halts
    have fall := jh_fall (hpl.get 1 rfl) (hpl.get 2 rfl) h11 (hr1.ev_r0 hw) (z _)
      (hne0.trans (decide_eq_false (not_not_intro hb0)))
      (fun _ => hcond_halts c11 (hr1.ev_r0 hw) (z _)
        (heq0.trans (decide_eq_true hb0)))
    have txt := (yld_imm (m := m1) (hpl.get 3 rfl) (by decide) hw).trans ((yld_imm (hpl.get 4 rfl) (by decide) hw).trans
      ((yld_imm (hpl.get 5 rfl) (by decide) hw).trans ((yld_imm (hpl.get 6 rfl) (by decide) hw).trans
      (yld_imm (hpl.get 7 rfl) (by decide) hw))))
    obtain ⟨m', ret, sm'⟩ := ret_tail hr1 hw (hpl.get 8 rfl) (hpl.get 9 rfl) (hpl.get 10 rfl) hF hFM
      (sm1.1 ▸ hFsz) hra1
    exact ⟨m', by simpa [outs, boolText, hb0] using x0.trans (fall.trans (txt.trans ret)), sm1.trans0 sm'⟩
  · -- true
    have jmp := jh_taken (hpl.get 1 rfl) (hpl.get 2 rfl) h11 (hr1.ev_r0 hw) (z _)
      (hne0.trans (decide_eq_true hb0))
    have x11 := hcond_pass c11 (hr1.ev_r0 hw) (z _)
      (heq0.trans (decide_eq_false hb0))
    have txt := (yld_imm (m := m1) (hpl.get 12 rfl) (by decide) hw).trans ((yld_imm (hpl.get 13 rfl) (by decide) hw).trans
      ((yld_imm (hpl.get 14 rfl) (by decide) hw).trans (yld_imm (hpl.get 15 rfl) (by decide) hw)))
    obtain ⟨m', ret, sm'⟩ := ret_tail hr1 hw (hpl.get 16 rfl) (hpl.get 17 rfl) (hpl.get 18 rfl) hF hFM
      (sm1.1 ▸ hFsz) hra1
    exact ⟨m', by simpa [outs, boolText, hb0, evl] using x0.trans (jmp.trans (x11.trans (txt.trans ret))),
      sm1.trans0 sm'⟩

end HidVerif.Sphinx
