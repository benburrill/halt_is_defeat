import HidVerif.Hid.Typecheck
/-!
# Reasoning in the typechecker's monad `R = Except TErr`

`Sat E P x`: the answer `x` is a value satisfying `P` or an error satisfying `E`.  It composes through `>>=`
(`Sat.bind`), so a property of a typechecker function is proved by walking down its `do` block.  Two instances are
used: `Post x P` (any error) and `NI x` (any value, no internal error).
-/
namespace HidVerif.Hid.TC

theorem guard_ok {c : Bool} {e : TErr} {u : PUnit} (h : (if c = true then (MonadExcept.throw e : R PUnit) else pure PUnit.unit) = .ok u) :
    c = false := by
  cases c
  · rfl
  · cases h

theorem of_not_false {b : Bool} (h : (!b) = false) : b = true := by
  cases b
  · cases h
  · rfl

theorem ite_rec {α : Type} {P : α → Prop} {c : Prop} [Decidable c] {a b : α} (ha : c → P a) (hb : ¬c → P b) :
    P (if c then a else b) := by
  split
  · exact ha ‹_›
  · exact hb ‹_›

def Sat {α : Type} (E : TErr → Prop) (P : α → Prop) : R α → Prop
  | .ok a => P a
  | .error e => E e

section
variable {α β : Type} {E : TErr → Prop} {P : α → Prop} {Q : β → Prop}

theorem Sat.pure {a : α} (h : P a) : Sat E P (pure a) := h

theorem Sat.throw {e : TErr} (h : E e) : Sat E P (MonadExcept.throw e : R α) := h

theorem Sat.bind {x : R α} {f : α → R β} (hx : Sat E P x) (hf : ∀ a, x = .ok a → P a → Sat E Q (f a)) :
    Sat E Q (x >>= f) := by
  cases x with
  | error e => exact hx
  | ok a => exact hf a rfl hx

theorem Sat.ite {c : Prop} [Decidable c] {x y : R α} (hx : c → Sat E P x) (hy : ¬c → Sat E P y) :
    Sat E P (if c then x else y) :=
  ite_rec (P := Sat E P) hx hy

theorem Sat.mono {P' : α → Prop} {x : R α} (hx : Sat E P x) (h : ∀ a, x = .ok a → P a → P' a) : Sat E P' x := by
  cases x with
  | error e => exact hx
  | ok a => exact h a rfl hx

theorem Sat.foldlM {f : β → α → R β} :
    ∀ (l : List α) (b : β), (∀ b, ∀ a ∈ l, Q b → Sat E Q (f b a)) → Q b → Sat E Q (l.foldlM f b)
  | [], _, _, hb => hb
  | a :: l, b, hf, hb => by
    rw [List.foldlM_cons]
    exact (hf b a List.mem_cons_self hb).bind fun b' _ hb' =>
      Sat.foldlM l b' (fun b a' ha' => hf b a' (List.mem_cons_of_mem _ ha')) hb'
end

inductive All2 {α β : Type} (P : α → β → Prop) : List α → List β → Prop
  | nil : All2 P [] []
  | cons {a b l r} : P a b → All2 P l r → All2 P (a :: l) (b :: r)

theorem All2.of_mem {α β : Type} {P : α → β → Prop} {l : List α} {r : List β} (h : All2 P l r) :
    ∀ b ∈ r, ∃ a ∈ l, P a b := by
  induction h with
  | nil => intro b hb; cases hb
  | cons hab _ ih =>
    intro b hb
    rcases List.mem_cons.1 hb with rfl | hb
    · exact ⟨_, List.mem_cons_self, hab⟩
    · obtain ⟨a, ha, hp⟩ := ih b hb
      exact ⟨a, List.mem_cons_of_mem _ ha, hp⟩

theorem All2.map_eq {α β γ : Type} {P : α → β → Prop} {l : List α} {r : List β} (h : All2 P l r) {g : β → γ} {k : α → γ} :
    (∀ a ∈ l, ∀ b, P a b → g b = k a) → r.map g = l.map k := by
  induction h with
  | nil => intro _; rfl
  | cons hab _ ih =>
    intro hgk
    rw [List.map_cons, List.map_cons, hgk _ List.mem_cons_self _ hab, ih fun a ha => hgk a (List.mem_cons_of_mem _ ha)]

theorem Sat.mapM {α β : Type} {E : TErr → Prop} {P : α → β → Prop} {f : α → R β} :
    ∀ (l : List α), (∀ a ∈ l, Sat E (P a) (f a)) → Sat E (All2 P l) (l.mapM f)
  | [], _ => by rw [List.mapM_nil]; exact All2.nil
  | a :: l, h => by
    rw [List.mapM_cons]
    exact (h a List.mem_cons_self).bind fun b _ hb =>
      (Sat.mapM l fun a' ha' => h a' (List.mem_cons_of_mem _ ha')).bind fun bs _ hbs => All2.cons hb hbs

abbrev Post {α : Type} (x : R α) (P : α → Prop) : Prop := Sat (fun _ => True) P x

theorem Post.of {α : Type} {x : R α} {P : α → Prop} (h : ∀ a, x = .ok a → P a) : Post x P := by
  cases x with
  | error e => trivial
  | ok a => exact h a rfl

theorem Post.ok {α : Type} {x : R α} {P : α → Prop} (h : Post x P) {a : α} (hx : x = .ok a) : P a := by
  subst hx; exact h

theorem Post.const {α : Type} {x : R α} {p : Prop} (h : p) : Post x (fun _ => p) := Post.of fun _ _ => h

theorem Post.self {α : Type} {x : R α} : Post x (fun a => x = .ok a) := Post.of fun _ h => h

theorem Post.foldlM_append {α γ : Type} {f : List γ → α → R (List γ)} {g : α → γ}
    (hf : ∀ acc a, Post (f acc a) (fun r => r = acc ++ [g a])) :
    ∀ (l : List α) (acc : List γ), Post (l.foldlM f acc) (fun r => r = acc ++ l.map g)
  | [], acc => (List.append_nil acc).symm
  | a :: l, acc => by
    rw [List.foldlM_cons]
    refine (hf acc a).bind fun r _ hr => (Post.foldlM_append hf l r).mono fun r' _ hr' => ?_
    rw [hr', hr, List.append_assoc]; rfl

theorem Post.skip {α β : Type} {Q : β → Prop} {x : R α} {f : α → R β} (hf : ∀ a, x = .ok a → Post (f a) Q) : Post (x >>= f) Q :=
  Sat.bind (P := fun _ => True) (Post.of fun _ _ => trivial) fun a ha _ => hf a ha

theorem Post.throw_bind {α β : Type} {Q : β → Prop} {e : TErr} {f : α → R β} : Post ((MonadExcept.throw e : R α) >>= f) Q :=
  trivial

/-- `if c then throw e` in front of the rest `y` of a `do` block -/
theorem Post.guard {α β : Type} {Q : β → Prop} {c : Bool} {e : TErr} {f : α → R β} {y : R β} (hy : c = false → Post y Q) :
    Post (if c = true then ((MonadExcept.throw e : R α) >>= f) else y) Q := by
  cases c
  · exact hy rfl
  · trivial

end HidVerif.Hid.TC
