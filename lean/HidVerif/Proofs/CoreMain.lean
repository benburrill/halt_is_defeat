import HidVerif.Proofs.CoreExec
/-!
# Core compiler proofs: whole programs

`core_correct`: `coreProg` (which the `core` correspondence suite shows to be exactly what `hidc`
emits), started in its initial state, performs the output of the source semantics followed by the
terminal flags, ends in the `tnt` loop and never halts, provided the stack holds the frame peak;
`core_overflow`: in checked builds a smaller stack leads to `stack_overflow` before any output;
also `init_inv`, `core_frame_restored`, `srcRun_stack_mono`.
-/
namespace HidVerif.Core
open HidVerif HidVerif.PSys HidVerif.Sphinx HidVerif.Gen

/-- the flags `runCore` appends to the output -/
def terminalEvs : Res → List Ev
  | .div0 => [Ev.flag "division_by_zero", Ev.flag "error"]
  | .ovf => [Ev.flag "stack_overflow", Ev.flag "error"]
  | _ => [Ev.flag "win"]

/-- bytes between the bottom of the stack and the frame pointer of the entry point -/
abbrev roomOf (cf : Config) (args : List Int) : Nat := cf.stackWords * cf.w + args.length * cf.w + cf.w

/-- the source semantics of a whole program: the entry point applied to the argument vector, with the
functions of the program as the call table -/
abbrev srcRun (cf : Config) (fuel : Nat) (args : List Int) (pr : CProg) : Option (Env × List Ev × Res) :=
  exec (256 ^ cf.w) (8 * cf.w) pr.funs cf.w fuel (roomOf cf args) (entryOff cf.w pr.params)
    (argEnv (256 ^ cf.w) pr.params args) pr.body

theorem placedAt_toArray_append (w : Nat) (l1 l2 : List Instr) (cn : Mem) :
    PlacedAt ⟨w, (l1 ++ l2).toArray, cn⟩ 0 l1 ∧ PlacedAt ⟨w, (l1 ++ l2).toArray, cn⟩ l1.length l2 := by
  constructor
  · intro i hi
    simp [List.getElem?_append_left hi]
  · intro i hi
    simp [List.getElem?_append_right]

theorem funcCode_len (cx : Cx) (fa : FAddr) (base : Nat) (vd : Bool) (params : List String) (body : S) :
    (funcCode cx fa base vd params body).length = funcLen cx.checked vd body := by
  unfold funcCode funcLen prologueLen
  cases hc : cx.checked <;> simp [cS_len, hc] <;> omega

theorem funsCode_len (cx : Cx) (fa : FAddr) : ∀ (fds : List FDecl) (a : Nat),
    (funsCode cx fa a fds).length = funsLen cx.checked fds := by
  intro fds
  induction fds with
  | nil => intro a; rfl
  | cons fd fds ih => intro a; simp [funsCode, funsLen, funcCode_len, ih]

theorem progCode_len (cf : Config) (pr : CProg) : (progCode cf pr).length = progLen cf.checked pr := by
  simp only [progCode, progLen, List.length_append, funcCode_len, funsCode_len]; rfl

theorem stdlibCode_len (w B : Nat) : (stdlibCode w B).length = stdlibLength := by
  simp [stdlibCode, stdlibLength, code_all_is_win, code_all_is_broken, code_stack_overflow, code_division_by_zero,
    code_out_of_bounds, code_nonlocal_preempt, code_write_const_byte_array, code_write_string,
    code_write_state_byte_array, code_write_bool, code_write_int]

theorem core_placed (cf : Config) (pr : CProg) (hw : 2 ≤ cf.w)
    (hB : progLen cf.checked pr + stdlibLength < 256 ^ cf.w) :
    Placed (coreProg cf pr) (progLen cf.checked pr) := by
  refine ⟨hw, ?_, hB⟩
  have := (placedAt_toArray_append cf.w (progCode cf pr) (stdlibCode cf.w (progLen cf.checked pr)) ⟨#[]⟩).2
  rw [progCode_len] at this
  exact this

/-- every function of the table is placed at the address the calls jump to -/
theorem funs_placed (p : Prog) (cx : Cx) (fa : FAddr) : ∀ (fds : List FDecl) (a : Nat),
    (fds.map (·.name)).Nodup → PlacedAt p a (funsCode cx fa a fds) →
    ∀ fd ∈ fds,
      PlacedAt p (faddr (layout cx.checked a fds) fd.name)
        (funcCode cx fa (faddr (layout cx.checked a fds) fd.name) fd.dfn fd.params fd.body) ∧
      faddr (layout cx.checked a fds) fd.name + funcLen cx.checked fd.dfn fd.body ≤ a + funsLen cx.checked fds := by
  intro fds
  induction fds with
  | nil => intro a _ _ fd hfd; simp at hfd
  | cons fd0 rest ih =>
    intro a hnd hpl fd hfd
    simp only [List.map_cons, List.nodup_cons] at hnd
    simp only [funsCode] at hpl
    obtain ⟨hpl1, hpl2⟩ := hpl.append
    rw [funcCode_len] at hpl2
    rcases List.mem_cons.1 hfd with rfl | hin
    · have : faddr (layout cx.checked a (fd :: rest)) fd.name = a := by
        simp [faddr, layout]
      rw [this]
      exact ⟨hpl1, by simp only [funsLen]; omega⟩
    · have hne : fd.name ≠ fd0.name := by
        intro e
        exact hnd.1 (by rw [← e]; exact List.mem_map.2 ⟨fd, hin, rfl⟩)
      have : faddr (layout cx.checked a (fd0 :: rest)) fd.name
          = faddr (layout cx.checked (a + funcLen cx.checked fd0.dfn fd0.body) rest) fd.name := by
        have hb : (fd.name == fd0.name) = false := by simpa using hne
        simp [faddr, layout, List.lookup, hb]
      rw [this]
      obtain ⟨h1, h2⟩ := ih (a + funcLen cx.checked fd0.dfn fd0.body) hnd.2 hpl2 fd hin
      exact ⟨h1, by simp only [funsLen]; omega⟩

theorem zsize (n : Nat) : (⟨Array.replicate n 0⟩ : Mem).size = n := by simp [Mem.size]

theorem writeArgs_size (w F : Nat) : ∀ (args : List Int) (m : Mem) (i : Nat), (writeArgs w F m i args).size = m.size := by
  intro args
  induction args with
  | nil => intro m i; rfl
  | cons a as ih => intro m i; simp only [writeArgs]; rw [ih]; simp

theorem writeArgs_other (w F : Nat) : ∀ (args : List Int) (m : Mem) (i x : Nat),
    (i + args.length + 1) * w ≤ F → (x < F - (i + args.length + 1) * w ∨ F - (i + 1) * w ≤ x) →
    (writeArgs w F m i args).rd x = m.rd x := by
  intro args
  induction args with
  | nil => intro m i x _ _; rfl
  | cons a as ih =>
    intro m i x hF hx
    simp only [writeArgs, List.length_cons] at hF hx ⊢
    have h1 := ih (m.writeLE (F - (i + 2) * w) w (wrapI (256 ^ w) a)) (i + 1) x
    simp only [Nat.add_mul, Nat.one_mul] at hF hx h1 ⊢
    rw [h1 (by omega) (by omega)]
    exact Mem.rd_writeLE_other _ _ _ _ _ (by omega)

theorem writeArgs_read (w F : Nat) (hw : 0 < w) : ∀ (args : List Int) (m : Mem) (i j : Nat) (hj : j < args.length),
    (i + args.length + 1) * w ≤ F → F ≤ m.size →
    (writeArgs w F m i args).readLE (F - (i + j + 2) * w) w = wrapI (256 ^ w) args[j] := by
  intro args
  induction args with
  | nil => intro m i j hj; simp at hj
  | cons a as ih =>
    intro m i j hj hF hsz
    simp only [writeArgs]
    simp only [List.length_cons] at hF hj
    have hM : 0 < 256 ^ w := Nat.pow_pos (by decide)
    cases j with
    | zero =>
      simp only [Nat.add_zero, List.getElem_cons_zero]
      have hoth := writeArgs_other w F as (m.writeLE (F - (i + 2) * w) w (wrapI (256 ^ w) a)) (i + 1)
      simp only [Nat.add_mul, Nat.one_mul] at hF hoth ⊢
      have : (writeArgs w F (m.writeLE (F - (i * w + 2 * w)) w (wrapI (256 ^ w) a)) (i + 1) as).readLE (F - (i * w + 2 * w)) w
          = (m.writeLE (F - (i * w + 2 * w)) w (wrapI (256 ^ w) a)).readLE (F - (i * w + 2 * w)) w :=
        Mem.readLE_congr _ _ _ _ (fun x h1 h2 => hoth x (by omega) (Or.inr (by omega)))
      rw [this, Mem.readLE_writeLE_same _ _ _ _ (by omega)]
      exact Nat.mod_eq_of_lt (wrapI_lt hM a)
    | succ j =>
      simp only [List.getElem_cons_succ]
      have := ih (m.writeLE (F - (i + 2) * w) w (wrapI (256 ^ w) a)) (i + 1) j (by omega)
        (by simp only [Nat.add_mul, Nat.one_mul] at hF ⊢; omega) (by simp; omega)
      rw [show i + 1 + j + 2 = i + (j + 1) + 2 from by omega] at this
      exact this

section init
variable (cf : Config) (args : List Int) (pr : CProg)

/-- address of the frame pointer of the entry point -/
abbrev F0 : Nat := 5 * cf.w + cf.stackWords * cf.w + args.length * cf.w + cf.w

/-- the words `try_fp` and `defeat` behind the entry frame, in programs that need them (`needsVD`) -/
def regsLen (w : Nat) (pr : CProg) : Nat := if needsVD pr then 2 * w else 0

theorem F0_args : (0 + args.length + 1) * cf.w ≤ F0 cf args := by
  unfold F0; simp only [Nat.zero_add, Nat.add_mul, Nat.one_mul]; omega

theorem initBase_size : (initBase cf args.length pr).size = F0 cf args + regsLen cf.w pr := by
  unfold initBase regsLen
  split <;> simp only [Mem.size_writeLE, zsize]

theorem initMem_size : (initMem cf args pr).size = F0 cf args + regsLen cf.w pr := by
  unfold initMem; rw [writeArgs_size, initBase_size]

theorem initBase_low (x k : Nat) (hx : x + k ≤ F0 cf args) :
    (initBase cf args.length pr).readLE x k =
      ((((⟨Array.replicate (F0 cf args + regsLen cf.w pr) 0⟩ : Mem).writeLE 0 cf.w (5 * cf.w)).writeLE cf.w cf.w (F0 cf args)).writeLE (F0 cf args - cf.w) cf.w
        (progLen cf.checked pr + off_all_is_win)).readLE x k := by
  unfold initBase regsLen
  split
  · rw [Mem.readLE_writeLE_disj _ _ _ _ _ _ (by unfold F0 at hx; omega)]
  · rfl

theorem initMem_low (x k : Nat) (hx : x + k ≤ 5 * cf.w) :
    (initMem cf args pr).readLE x k =
      ((((⟨Array.replicate (F0 cf args + regsLen cf.w pr) 0⟩ : Mem).writeLE 0 cf.w (5 * cf.w)).writeLE cf.w cf.w (F0 cf args)).writeLE (F0 cf args - cf.w) cf.w
        (progLen cf.checked pr + off_all_is_win)).readLE x k := by
  rw [← initBase_low cf args pr x k (by unfold F0; omega)]
  unfold initMem
  exact Mem.readLE_congr _ _ _ _ (fun y h1 h2 => writeArgs_other cf.w _ args _ 0 y (F0_args cf args)
    (Or.inl (by
      have : (0 + args.length + 1) * cf.w = args.length * cf.w + cf.w := by simp only [Nat.zero_add, Nat.add_mul, Nat.one_mul]
      omega)))

theorem initMem_fp (hw : 2 ≤ cf.w) (hSE : F0 cf args < 256 ^ cf.w) :
    (initMem cf args pr).readLE cf.w cf.w = F0 cf args := by
  rw [initMem_low cf args pr cf.w cf.w (by omega)]
  rw [Mem.readLE_writeLE_disj _ _ _ _ _ _ (by unfold F0; omega),
    Mem.readLE_writeLE_same _ _ _ _ (by simp only [Mem.size_writeLE, zsize]; unfold F0; omega)]
  exact Nat.mod_eq_of_lt hSE

theorem initMem_ap (hw : 2 ≤ cf.w) : (initMem cf args pr).readLE 0 cf.w = 5 * cf.w := by
  rw [initMem_low cf args pr 0 cf.w (by omega)]
  rw [Mem.readLE_writeLE_disj _ _ _ _ _ _ (by unfold F0; omega), Mem.readLE_writeLE_disj _ _ _ _ _ _ (by omega),
    Mem.readLE_writeLE_same _ _ _ _ (by simp only [zsize]; unfold F0; omega)]
  exact Nat.mod_eq_of_lt (by have := mul_w_lt_pow cf.w hw; omega)

theorem initMem_ra (hw : 2 ≤ cf.w) (hB : progLen cf.checked pr + stdlibLength < 256 ^ cf.w) :
    (initMem cf args pr).readLE (F0 cf args - cf.w) cf.w = progLen cf.checked pr + off_all_is_win := by
  have : (initMem cf args pr).readLE (F0 cf args - cf.w) cf.w = (initBase cf args.length pr).readLE (F0 cf args - cf.w) cf.w := by
    unfold initMem
    exact Mem.readLE_congr _ _ _ _ (fun y h1 h2 => writeArgs_other cf.w _ args _ 0 y (F0_args cf args)
      (Or.inr (by simp only [Nat.zero_add, Nat.one_mul]; exact h1)))
  rw [this, initBase_low cf args pr _ _ (by unfold F0; omega),
    Mem.readLE_writeLE_same _ _ _ _ (by simp only [Mem.size_writeLE, zsize]; unfold F0; omega)]
  exact Nat.mod_eq_of_lt (off_lt hB (by decide))

theorem initMem_arg (hw : 2 ≤ cf.w) (j : Nat) (hj : j < args.length) :
    (initMem cf args pr).readLE (F0 cf args - (j + 2) * cf.w) cf.w = wrapI (256 ^ cf.w) args[j] := by
  unfold initMem
  have := writeArgs_read cf.w (F0 cf args) (by omega) args (initBase cf args.length pr) 0 j hj (F0_args cf args)
    (by rw [initBase_size]; omega)
  rw [Nat.zero_add] at this
  exact this

/-- programs with the word `defeat` start with `defeat = halt` -/
theorem initMem_defeat (hw : 2 ≤ cf.w) (hs : needsVD pr = true) (hB : progLen cf.checked pr + stdlibLength < 256 ^ cf.w) :
    (initMem cf args pr).readLE (F0 cf args + cf.w) cf.w = progLen cf.checked pr + off_halt := by
  have : (initMem cf args pr).readLE (F0 cf args + cf.w) cf.w = (initBase cf args.length pr).readLE (F0 cf args + cf.w) cf.w := by
    unfold initMem
    exact Mem.readLE_congr _ _ _ _ (fun y h1 h2 => writeArgs_other cf.w _ args _ 0 y (F0_args cf args)
      (Or.inr (by simp only [Nat.zero_add, Nat.one_mul, F0] at h1 ⊢; omega)))
  rw [this]
  unfold initBase
  simp only [hs, if_true]
  rw [Mem.readLE_writeLE_same _ _ _ _ (by simp only [Mem.size_writeLE, zsize]; omega)]
  exact Nat.mod_eq_of_lt (off_lt hB (by decide))
end init

theorem slots_of_reads (w : Nat) (m : Mem) (F : Nat) : ∀ (args : List Int) (i : Nat),
    (∀ j (hj : j < args.length), m.readLE (F - (i + j + 2) * w) w = wrapI (256 ^ w) args[j]) →
    SlotsAt w m F ((i + 2) * w) (args.map (wrapI (256 ^ w))) := by
  intro args
  induction args with
  | nil => intro i _; trivial
  | cons a as ih =>
    intro i h
    refine ⟨by
      have := h 0 (by simp)
      simp only [Nat.add_zero, List.getElem_cons_zero] at this
      exact this, ?_⟩
    have := ih (i + 1) (fun j hj => by
      have := h (j + 1) (by simp; omega)
      rw [show i + 1 + j + 2 = i + (j + 1) + 2 from by omega]
      simpa using this)
    rw [show (i + 2) * w + w = (i + 1 + 2) * w from by simp only [Nat.add_mul, Nat.one_mul]; omega]
    exact this

theorem wfProg_parts {pr : CProg} (h : wfProg pr = true) :
    pr.params.Nodup ∧ wfS pr.funs false pr.params pr.body = true ∧ youLevel (needsVD pr) pr.funs pr.body = true ∧ noFall pr.body = true ∧
    escFree false pr.body = true ∧ (pr.funs.map (·.name)).Nodup ∧
    ∀ fd ∈ pr.funs, fd.params.Nodup ∧ wfS pr.funs fd.dfn fd.params fd.body = true ∧
      (fd.dfn = false → plain pr.funs fd.body = true) ∧ (fd.dfn = true → noTry fd.body = true) := by
  simp only [wfProg, Bool.and_eq_true, decide_eq_true_eq, List.all_eq_true] at h
  obtain ⟨⟨⟨⟨⟨⟨⟨⟨h1, h2⟩, h3⟩, h4⟩, h4'⟩, _⟩, _⟩, h5⟩, h6⟩ := h
  refine ⟨h1, h2, h3, h4, h4', h5, fun fd hfd => ⟨(h6 fd hfd).1.1.1, (h6 fd hfd).1.1.2, fun hd => ?_, fun hd => ?_⟩⟩
  · have := (h6 fd hfd).1.2; rw [hd] at this; simpa using this
  · have := (h6 fd hfd).1.2; rw [hd] at this; simpa using this

theorem core_fnsOK (cf : Config) (pr : CProg) (hwf : wfProg pr = true) :
    FnsOK (coreProg cf pr) cf.checked (progLen cf.checked pr) (defeatAddr cf pr) (progFA cf.checked pr) pr.funs := by
  obtain ⟨_, _, _, _, _, hnames, hfd⟩ := wfProg_parts hwf
  have hall : PlacedAt (coreProg cf pr) 0 (progCode cf pr) :=
    (placedAt_toArray_append cf.w (progCode cf pr) (stdlibCode cf.w (progLen cf.checked pr)) ⟨#[]⟩).1
  unfold progCode at hall
  have h2 := hall.append.2
  rw [funcCode_len, Nat.zero_add] at h2
  have hp := funs_placed (coreProg cf pr) (mkCx cf pr) (progFA cf.checked pr) pr.funs (funcLen cf.checked false pr.body) hnames h2
  refine ⟨fun fd h => (hp fd h).1, fun fd h => ?_, fun fd h => (hfd fd h).1, fun fd h => (hfd fd h).2.1, fun fd h => (hfd fd h).2.2.1,
    fun fd h => (hfd fd h).2.2.2⟩
  have := (hp fd h).2
  rw [show funcCode (cxOf (coreProg cf pr) cf.checked (progLen cf.checked pr) (defeatAddr cf pr)) = funcCode (mkCx cf pr) from rfl,
    funcCode_len]
  exact this

/-- what the level of the you function knows about the word `defeat` at the start: in programs that have it, it
holds the address of `halt` -/
def youWord (cf : Config) (args : List Int) (pr : CProg) : Option (Nat × Nat) :=
  if needsVD pr then some (F0 cf args + cf.w, progLen cf.checked pr + off_halt) else none

theorem init_fr (cf : Config) (args : List Int) (pr : CProg) (hw : 2 ≤ cf.w) (hSE : F0 cf args < 256 ^ cf.w) :
    Fr (coreProg cf pr) (initMem cf args pr) (F0 cf args) (cf.stackWords * cf.w + args.length * cf.w + cf.w) := by
  have hF : F0 cf args = 5 * cf.w + cf.stackWords * cf.w + args.length * cf.w + cf.w := rfl
  exact ⟨initMem_fp cf args pr hw hSE, initMem_ap cf args pr hw, by rw [initMem_size]; omega, hSE,
    by show 5 * cf.w + _ = _; rw [hF]; omega⟩

/-- the initial state satisfies the invariant `cS_ok` starts from -/
theorem init_inv (cf : Config) (args : List Int) (pr : CProg) (hw : 2 ≤ cf.w)
    (hB : progLen cf.checked pr + stdlibLength < 256 ^ cf.w) (hSE : F0 cf args + regsLen cf.w pr < 256 ^ cf.w)
    (hnd : pr.params.Nodup) (hlen : args.length = pr.params.length) :
    SInv (coreProg cf pr) (.you (youWord cf args pr)) (paramGam cf.w (2 * cf.w) pr.params) (argEnv (256 ^ cf.w) pr.params args) (initMem cf args pr)
      (F0 cf args) (cf.stackWords * cf.w + args.length * cf.w + cf.w) (entryOff cf.w pr.params)
      (progLen cf.checked pr + off_all_is_win) := by
  refine ⟨init_fr cf args pr hw (by omega), ?_, initMem_ra cf args pr hw hB, ?_⟩
  · have hs := slots_of_reads cf.w (initMem cf args pr) (F0 cf args) args 0
      (fun j hj => by rw [Nat.zero_add]; exact initMem_arg cf args pr hw j hj)
    rw [Nat.zero_add] at hs
    have := vars_slots cf.w (initMem cf args pr) (F0 cf args) pr.params (args.map (wrapI (256 ^ cf.w))) (2 * cf.w) hnd
      (by simpa using hlen) (Nat.le_refl _) hs
    have heo : 2 * cf.w + pr.params.length * cf.w - cf.w = entryOff cf.w pr.params := by
      unfold entryOff; rw [Nat.add_mul, Nat.one_mul]; omega
    rw [heo] at this
    exact this
  · intro a v e
    cases hv : needsVD pr with
    | false => simp [Md.word, youWord, hv] at e
    | true =>
      have hr : regsLen cf.w pr = 2 * cf.w := by simp [regsLen, hv]
      simp only [Md.word, youWord, hv, if_true, Option.some.injEq, Prod.mk.injEq] at e
      obtain ⟨rfl, rfl⟩ := e
      refine ⟨Nat.le_refl _, by rw [initMem_size, hr]; show F0 cf args + cf.w + cf.w ≤ _; omega, by show F0 cf args + cf.w + cf.w < 256 ^ cf.w; omega,
        initMem_defeat cf args pr hw hv hB, ?_⟩
      exact off_lt hB (by decide)

theorem entry_placed (cf : Config) (pr : CProg) :
    PlacedAt (coreProg cf pr) 0
      (funcCode (cxOf (coreProg cf pr) cf.checked (progLen cf.checked pr) (defeatAddr cf pr)) (progFA cf.checked pr) 0 false pr.params pr.body) ∧
    funcLen cf.checked false pr.body ≤ progLen cf.checked pr := by
  have hall : PlacedAt (coreProg cf pr) 0 (progCode cf pr) :=
    (placedAt_toArray_append cf.w (progCode cf pr) (stdlibCode cf.w (progLen cf.checked pr)) ⟨#[]⟩).1
  unfold progCode at hall
  exact ⟨hall.append.1, by unfold progLen; omega⟩

/-- `coreProg` performs the trace of the source run, then the terminal flags, ends in `tnt` and never halts -/
theorem core_correct (cf : Config) (args : List Int) (pr : CProg) (hw : 2 ≤ cf.w)
    (hB : progLen cf.checked pr + stdlibLength < 256 ^ cf.w) (hSE : F0 cf args + regsLen cf.w pr < 256 ^ cf.w)
    (hwf : wfProg pr = true) (hlen : args.length = pr.params.length)
    (fuel : Nat) (env' : Env) (tr : List Ev) (res : Res)
    (hex : srcRun cf fuel args pr = some (env', tr, res))
    (hck : res = .div0 ∨ res = .ovf → cf.checked = true)
    (hpkF : res = .ovf → ∀ fd ∈ pr.funs, pkS cf.w (entryOff cf.w fd.params) fd.body < 256 ^ cf.w)
    (hroom : pkS cf.w (entryOff cf.w pr.params) pr.body ≤ roomOf cf args) :
    ∃ mEnd, Exec (sphinx (coreProg cf pr)) (coreInit cf args pr) (tr ++ terminalEvs res)
        ⟨tntPc (progLen cf.checked pr), mEnd⟩ ∧
      ¬ Halts (sphinx (coreProg cf pr)) (coreInit cf args pr) := by
  have lib := core_placed cf pr hw hB
  have fok := core_fnsOK cf pr hwf
  have hfo : FaultOK cf.checked pr.funs cf.w res := by
    cases res with
    | div0 => exact hck (Or.inl rfl)
    | ovf => exact ⟨hck (Or.inr rfl), hpkF rfl⟩
    | norm => trivial
    | returned => trivial
    | defeat => trivial
    | retv v => trivial
    | brk => trivial
    | cnt => trivial
  change pkS cf.w (entryOff cf.w pr.params) pr.body ≤ cf.stackWords * cf.w + args.length * cf.w + cf.w at hroom
  change exec (256 ^ cf.w) (8 * cf.w) pr.funs cf.w fuel (cf.stackWords * cf.w + args.length * cf.w + cf.w)
    (entryOff cf.w pr.params) (argEnv (256 ^ cf.w) pr.params args) pr.body = some (env', tr, res) at hex
  obtain ⟨hnd, hwfb, hyl, hnf, hesc, _, _⟩ := wfProg_parts hwf
  have hSE0 : F0 cf args < 256 ^ cf.w := Nat.lt_of_le_of_lt (Nat.le_add_right _ _) hSE
  have hinv0 := init_inv cf args pr hw hB hSE hnd hlen
  have hdAe : defeatAddr cf pr = F0 cf args + cf.w := by unfold defeatAddr F0; rw [hlen]
  have hregs : needsVD pr = true → defeatAddr cf pr = F0 cf args + (coreProg cf pr).w ∧
      F0 cf args + 2 * (coreProg cf pr).w ≤ (initMem cf args pr).size ∧ F0 cf args + 2 * (coreProg cf pr).w < 256 ^ (coreProg cf pr).w ∧
      Md.you (youWord cf args pr) = .you (some (defeatAddr cf pr, progLen cf.checked pr + off_halt)) := by
    intro hs
    have hr : regsLen cf.w pr = 2 * cf.w := by simp [regsLen, hs]
    refine ⟨hdAe, by rw [initMem_size, hr]; exact Nat.le_refl _, ?_, by simp [youWord, hs, hdAe]⟩
    show F0 cf args + 2 * cf.w < 256 ^ cf.w; exact hr ▸ hSE
  have hsf : needsVD pr = false → ∀ fd ∈ pr.funs, fd.dfn = false := by
    intro hs fd hfd
    simp only [needsVD, Bool.or_eq_false_iff, List.any_eq_false] at hs
    simpa using hs.2 fd hfd
  have h64 := mul_w_lt_pow cf.w hw
  have hM := pow_ge2 cf.w hw
  have heo : entryOff cf.w pr.params = pr.params.length * cf.w + cf.w := by
    unfold entryOff; simp only [Nat.add_mul, Nat.one_mul]
  obtain ⟨hcodeP, hfl⟩ := entry_placed cf pr
  have hcodeLen : (funcCode (cxOf (coreProg cf pr) cf.checked (progLen cf.checked pr) (defeatAddr cf pr)) (progFA cf.checked pr) 0 false pr.params pr.body).length
      = funcLen cf.checked false pr.body := funcCode_len _ _ _ _ _ _
  have hpro := (prologue_ok (ck := cf.checked) lib (progFA cf.checked pr) 0 false pr.params pr.body (initMem cf args pr)
    (F0 cf args) (cf.stackWords * cf.w + args.length * cf.w + cf.w) hinv0.fr hcodeP (by rw [hcodeLen]; omega)
    (Nat.lt_of_le_of_lt (Nat.le_trans hroom (Nat.le_trans (Nat.le_add_left _ _) (Nat.le_of_eq hinv0.fr.room))) hSE0)).1
    (by rw [← hinv0.fr.room, Nat.add_sub_cancel_left]; exact hroom)
  have hbodyP : PlacedAt (coreProg cf pr) (0 + prologueLen cf.checked)
      (cS (cxOf (coreProg cf pr) cf.checked (progLen cf.checked pr) (defeatAddr cf pr)) (progFA cf.checked pr) ⟨0, 0, false⟩
        (paramGam cf.w (2 * cf.w) pr.params) (0 + prologueLen cf.checked) (entryOff cf.w pr.params) pr.body) := by
    have := hcodeP
    unfold funcCode at this
    have h2 := this.append.2
    cases hc : cf.checked <;> simp [hc, prologueLen] at h2 ⊢ <;> exact h2
  generalize hp : coreProg cf pr = p at *
  have hpw : p.w = cf.w := by rw [← hp]; rfl
  generalize hBdef : progLen cf.checked pr = B at *
  have hbodyLen : 0 + prologueLen cf.checked +
      (cS (cxOf p cf.checked B (defeatAddr cf pr)) (progFA cf.checked pr) ⟨0, 0, false⟩ (paramGam cf.w (2 * cf.w) pr.params) (0 + prologueLen cf.checked)
        (entryOff cf.w pr.params) pr.body).length = funcLen cf.checked false pr.body := by
    rw [cS_len]; show 0 + prologueLen cf.checked + lenS cf.checked false pr.body = prologueLen cf.checked + lenS cf.checked false pr.body; rw [Nat.zero_add]
  have hbody := cS_ok (ck := cf.checked) lib fok fuel (F0 cf args) (cf.stackWords * cf.w + args.length * cf.w + cf.w)
    (B + off_all_is_win) (lib.lt _ (by decide)) ⟨0, 0, false⟩ ⟨Nat.pow_pos (by decide), Nat.pow_pos (by decide)⟩ (.you (youWord cf args pr)) (needsVD pr) false
    pr.body (paramGam cf.w (2 * cf.w) pr.params) (argEnv (256 ^ cf.w) pr.params args) (0 + prologueLen cf.checked)
    (entryOff cf.w pr.params)
  rw [hpw] at hbody
  have hnd' : res ≠ .defeat := exec_no_defeat _ _ _ _ _ _ _ _ _ _ _ _ _ hyl hex
  have hnn : res ≠ .norm := exec_noFall _ _ _ _ _ _ _ _ _ _ _ _ hnf hex
  have hne := exec_noEsc _ _ _ _ _ _ _ _ _ _ _ _ hesc hex
  -- where the entry function can end: `all_is_win` or an error stub, none of which halts
  have hsafe : ∀ st', Post p B (B + off_all_is_win) ⟨0, 0, false⟩ (.you (youWord cf args pr)) (paramGam cf.w (2 * cf.w) pr.params) env' (F0 cf args)
      (cf.stackWords * cf.w + args.length * cf.w + cf.w) (entryOff cf.w pr.params)
      (0 + prologueLen cf.checked + (cS (cxOf p cf.checked B (defeatAddr cf pr)) (progFA cf.checked pr) ⟨0, 0, false⟩ (paramGam cf.w (2 * cf.w) pr.params)
        (0 + prologueLen cf.checked) (entryOff cf.w pr.params) pr.body).length) (initMem cf args pr) res st' →
      ¬ Halts (sphinx p) st' ∧ ∃ mEnd, Reach (sphinx p) st' (terminalEvs res) ⟨tntPc B, mEnd⟩ := by
    intro st' hp'
    obtain ⟨pc', m'⟩ := st'
    have tn := terminal_never_halts lib m'
    cases res with
    | norm => exact absurd rfl hnn
    | returned => simp only [Post] at hp'; obtain ⟨rfl, _⟩ := hp'; exact ⟨tn.1, m', all_is_win_reach lib m'⟩
    | retv v => simp only [Post] at hp'; obtain ⟨rfl, _⟩ := hp'; exact ⟨tn.1, m', all_is_win_reach lib m'⟩
    | div0 => simp only [Post] at hp'; subst hp'; exact ⟨tn.2.2.2.1, m', (error_stub_reach lib m').2.1⟩
    | ovf => simp only [Post] at hp'; subst hp'; exact ⟨tn.2.2.1, m', (error_stub_reach lib m').1⟩
    | defeat => exact absurd rfl hnd'
    | brk => exact absurd rfl hne.1
    | cnt => exact absurd rfl hne.2
  obtain ⟨st', r, hpost⟩ := (hbody (initMem cf args pr) env' tr res hbodyP (by omega) hinv0
    (disj_paramGam cf.w pr.params (2 * cf.w) hnd)
    (by rw [map_fst_paramGam]; exact hwfb) hroom (heo ▸ Nat.le_add_left _ _) hex hfo
    (Or.inr ⟨⟨rfl, rfl, hsf⟩, rfl, hyl, hregs, fun st' h => (hsafe st' h).1⟩)).2 (nd hnd')
  obtain ⟨mEnd, rend⟩ := (hsafe st' hpost).2
  have rall := (hpro.trans r).trans rend
  have nh := tnt_never_halts lib mEnd
  refine ⟨mEnd, ?_, ?_⟩
  · have := (rall.exec nh).1; simpa [coreInit] using this
  · have := (rall.exec nh).2; simpa [coreInit] using this

/-- checked build, stack smaller than the frame peak of the entry point: `stack_overflow` before anything
else happens -/
theorem core_overflow (cf : Config) (args : List Int) (pr : CProg) (hw : 2 ≤ cf.w)
    (hck : cf.checked = true)
    (hB : progLen cf.checked pr + stdlibLength < 256 ^ cf.w) (hSE : F0 cf args < 256 ^ cf.w)
    (hnd : pr.params.Nodup) (hlen : args.length = pr.params.length)
    (hsmall : roomOf cf args < pkS cf.w (entryOff cf.w pr.params) pr.body)
    (hpkM : pkS cf.w (entryOff cf.w pr.params) pr.body < 256 ^ cf.w) :
    ∃ mEnd, Exec (sphinx (coreProg cf pr)) (coreInit cf args pr) [Ev.flag "stack_overflow", Ev.flag "error"]
        ⟨tntPc (progLen cf.checked pr), mEnd⟩ ∧
      ¬ Halts (sphinx (coreProg cf pr)) (coreInit cf args pr) := by
  have lib := core_placed cf pr hw hB
  change cf.stackWords * cf.w + args.length * cf.w + cf.w < pkS cf.w (entryOff cf.w pr.params) pr.body at hsmall
  have hfr0 := init_fr cf args pr hw hSE
  obtain ⟨hcodeP, hfl⟩ := entry_placed cf pr
  obtain ⟨m1, r1⟩ := (prologue_ok (ck := cf.checked) lib (progFA cf.checked pr) 0 false pr.params pr.body (initMem cf args pr)
    (F0 cf args) (cf.stackWords * cf.w + args.length * cf.w + cf.w) hfr0 hcodeP (by rw [funcCode_len]; show 0 + funcLen cf.checked false pr.body ≤ progLen cf.checked pr; omega)
    hpkM).2 hck (by rw [← hfr0.room, Nat.add_sub_cancel_left]; exact hsmall)
  have r := r1.trans (error_stub_reach lib m1).1
  have nh := tnt_never_halts lib m1
  refine ⟨m1, ?_, ?_⟩
  · have := (r.exec nh).1; simpa [coreInit] using this
  · have := (r.exec nh).2; simpa [coreInit] using this

theorem srcRun_stack_mono (w S S' : Nat) (ck : Bool) (hS : S ≤ S') (fuel : Nat) (args : List Int) (pr : CProg)
    (env' : Env) (tr : List Ev) (res : Res) (h : srcRun ⟨w, S, ck⟩ fuel args pr = some (env', tr, res)) (hno : res ≠ .ovf) :
    srcRun ⟨w, S', ck⟩ fuel args pr = some (env', tr, res) :=
  exec_room_mono _ _ _ _ _ _ _ _ _ _ _ _ _ (by
    show S * w + args.length * w + w ≤ S' * w + args.length * w + w
    have := Nat.mul_le_mul_right w hS; omega) h hno

/-- however a statement list without `try` is left (falling through, `return`, `return e`), `fp`, `ap` and all
memory at and above the frame pointer are what they were when it was entered -/
theorem core_frame_restored {p : Prog} {ck : Bool} {B dA : Nat} {fa : FAddr} {fns : List FDecl}
    (lib : Placed p B) (fok : FnsOK p ck B dA fa fns) (fuel F D ra : Nat) (hra : ra < 256 ^ p.w)
    (lp : Jt) (hlp : lp.cont < 256 ^ p.w ∧ lp.brk < 256 ^ p.w) (hvd : lp.vd = false) (s : S) (Γ : Gam) (env : Env) (pc o : Nat) (m : Mem) (env' : Env) (tr : List Ev) (res : Res)
    (hpl : PlacedAt p pc (cS (cxOf p ck B dA) fa lp Γ pc o s))
    (hB : pc + (cS (cxOf p ck B dA) fa lp Γ pc o s).length ≤ B)
    (hinv : SInv p .plain Γ env m F D o ra) (hd : Disj p.w Γ) (hwf : wfS fns false (Γ.map Prod.fst) s = true)
    (hpk : pkS p.w o s ≤ D) (ho : p.w ≤ o) (hnt : noTry s = true)
    (hex : exec (256 ^ p.w) (8 * p.w) fns p.w fuel D o env s = some (env', tr, res))
    (hres : res = .norm ∨ res = .returned ∨ ∃ v, res = .retv v) :
    ∃ st', Reach (sphinx p) ⟨pc, m⟩ tr st' ∧ Keep p.w m st'.mem F ∧ st'.mem.readLE p.w p.w = F ∧
      (res = .norm → st'.pc = pc + (cS (cxOf p ck B dA) fa lp Γ pc o s).length) ∧ (res ≠ .norm → st'.pc = ra) := by
  have hc := cS_ok lib fok fuel F D ra hra lp hlp .plain false false s Γ env pc o m env' tr res hpl hB hinv hd hwf hpk ho hex
    (by rcases hres with h | h | ⟨v, h⟩ <;> subst h <;> trivial) (Or.inl ⟨rfl, ⟨(by intro h; rw [hvd] at h; cases h), (by intro h; cases h)⟩, hnt, Or.inl HaltW.plain⟩)
  obtain ⟨st', r, hp⟩ := hc.2 (nd (by rcases hres with h | h | ⟨v, h⟩ <;> subst h <;> simp))
  have hfp := hinv.fr.fp
  rcases hres with h | h | ⟨v, h⟩ <;> subst h <;> simp only [Post] at hp
  · exact ⟨st', r, hp.2.2, (by rw [hp.2.2.fp]; exact hfp), fun _ => hp.1, fun h => absurd rfl h⟩
  · exact ⟨st', r, hp.2, (by rw [hp.2.fp]; exact hfp), fun h => (by cases h), fun _ => hp.1⟩
  · exact ⟨st', r, hp.2.1, (by rw [hp.2.1.fp]; exact hfp), fun h => (by cases h), fun _ => hp.1⟩

end HidVerif.Core
