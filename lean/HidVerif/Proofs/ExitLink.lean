import HidVerif.Proofs.NoInternalModes
import HidVerif.Proofs.ExitModes
/-!
# The exit modes the typechecker model writes into its tree are the analysis of `Hid/ExitModes.lean`

`skelOf` keeps the control skeleton of a typed statement; every block the typechecker builds is annotated with
`Exit.blockGo` of the skeletons of the statements it kept (`tcBlockGo_link_post`), so `Exit.exits_sound` applies to
accepted programs: no function body can complete normally.
-/
namespace HidVerif.Hid.TC
open HidVerif.Hid HidVerif.Hid.Lex HidVerif.Hid.Parse HidVerif.Gen
open HidVerif.Hid.Exit (Skel Exits Out)

mutual
def skelOf : TS → Skel
  | .expr e => skelOfE e
  | .decl _ _ _ _ => .other
  | .assign _ _ => .other
  | .incassign _ _ _ _ => .other
  | .ret _ => .ret
  | .brk => .brk
  | .cont => .cont
  | .block ss _ => .block (skelOfs ss)
  | .ifb _ t e => .ifb (skelOf t) (skelOf e)
  | .loop c b k => .loop (match c with | .boolv true => true | _ => false) (skelOf b) (skelOf k)
  | .tryb b _ h => .tryb (skelOf b) (skelOf h)
  | .preempt b => .preempt (skelOf b)
def skelOfs : List TS → List Skel
  | [] => []
  | t :: r => skelOf t :: skelOfs r
end

theorem skelOfs_append : ∀ (a b : List TS), skelOfs (a ++ b) = skelOfs a ++ skelOfs b
  | [], b => by simp [skelOfs]
  | x :: a, b => by simp [skelOfs, skelOfs_append a b]

mutual
/-- every block of the tree carries the mode the analysis computes for the statements in it -/
def annOK : TS → Bool
  | .block ss m => annOKs ss && m == Exit.blockGo (skelOfs ss) Exit.NONE false
  | .ifb _ t e => annOK t && annOK e
  | .loop _ b k => annOK b && annOK k
  | .tryb b _ h => annOK b && annOK h
  | .preempt b => annOK b
  | _ => true
def annOKs : List TS → Bool
  | [] => true
  | t :: r => annOK t && annOKs r
end

/-! `em "X"` and `Exit.X` are the same table entry and `emReplace` is `Exit.replace`, so `exitModesOf` and `stepMode`
unfold to `Exit.modes` and `Exit.step`; only `emHas` has a second conjunct (`em name != 0`) -/
theorem emHas_eq_has (m : Nat) : emHas m "NONE" = Exit.has m Exit.NONE ∧ emHas m "BREAK" = Exit.has m Exit.BREAK :=
  ⟨Bool.and_true _, Bool.and_true _⟩

theorem modes_eq : ∀ t : TS, annOK t = true → exitModesOf t = Exit.modes (skelOf t)
  | .block ss m, h => by
    simp only [annOK, Bool.and_eq_true, beq_iff_eq] at h
    simp only [exitModesOf, skelOf, Exit.modes, h.2]
  | .ifb c t e, h => by
    simp only [annOK, Bool.and_eq_true] at h
    simp only [exitModesOf, skelOf, Exit.modes, modes_eq t h.1, modes_eq e h.2]
  | .loop c b k, h => by
    simp only [annOK, Bool.and_eq_true] at h
    simp only [exitModesOf, skelOf, Exit.modes, modes_eq b h.1, (emHas_eq_has _).2]
    rfl
  | .tryb b k hd, h => by
    simp only [annOK, Bool.and_eq_true] at h
    simp only [exitModesOf, skelOf, Exit.modes, modes_eq b h.1, modes_eq hd h.2]
    rfl
  | .preempt b, h => by
    simp only [annOK] at h
    simp only [exitModesOf, skelOf, Exit.modes, modes_eq b h]
    rfl
  | .expr e, _ => by
    show 0 = Exit.modes (skelOfE e)
    rcases skelOfE_cases e with h | h | ⟨h | h, _⟩ <;> rw [h] <;> rfl
  | .decl _ _ _ _, _ => rfl
  | .assign _ _, _ => rfl
  | .incassign _ _ _ _, _ => rfl
  | .ret _, _ => rfl
  | .brk, _ => rfl
  | .cont, _ => rfl

theorem skelOfE_wf (e : TE) : Exit.wf (skelOfE e) = true := by
  rcases skelOfE_cases e with h | h | ⟨h | h, _⟩ <;> rw [h] <;> rfl

theorem stepMode_eq (t : TS) (hann : annOK t = true) (mode : Nat) : stepMode mode t = Exit.step mode (skelOf t) := by
  have hm := modes_eq t hann
  cases t with
  | expr e => exact stepMode_expr mode e
  | decl | assign | incassign | ret | brk | cont => rfl
  | block | ifb | loop | tryb | preempt =>
    simp only [skelOf] at hm ⊢
    simp only [stepMode, hm]
    rfl

/-- one step of the typechecker's block loop is one step of the analysis -/
theorem step_link (t : TS) (hann : annOK t = true) (R : List Skel) (mode : Nat) (hn : emHas mode "NONE" = true) :
    Exit.blockGo (skelOf t :: R) mode false = Exit.blockGo R (stepMode mode t).1 (stepMode mode t).2 := by
  rw [Exit.blockGo_cons, ← (emHas_eq_has mode).1, hn, stepMode_eq t hann]
  rfl

mutual
/-- the parts of control statements are blocks (what the parser builds) -/
def shapeP : PStmt → Bool
  | .block ss _ => shapePs ss
  | .ifb _ t e => blockishP t && blockishP e && shapeP t && shapeP e
  | .loop _ b k => blockishP b && blockishP k && shapeP b && shapeP k
  | .tryb b _ h => blockishP b && blockishP h && shapeP b && shapeP h
  | .preempt b => blockishP b && shapeP b
  | _ => true
def shapePs : List PStmt → Bool
  | [] => true
  | s :: r => shapeP s && shapePs r
end

theorem annOKs_append : ∀ (a b : List TS), annOKs a = true → annOKs b = true → annOKs (a ++ b) = true
  | [], b, _, hb => by simpa using hb
  | x :: a, b, ha, hb => by
    simp only [annOKs, Bool.and_eq_true] at ha
    simp only [List.cons_append, annOKs, Bool.and_eq_true]
    exact ⟨ha.1, annOKs_append a b ha.2 hb⟩

theorem wfAll_append : ∀ (a b : List Skel), Exit.wfAll a = true → Exit.wfAll b = true → Exit.wfAll (a ++ b) = true
  | [], b, _, hb => by simpa using hb
  | x :: a, b, ha, hb => by
    simp only [Exit.wfAll, Bool.and_eq_true] at ha
    simp only [List.cons_append, Exit.wfAll, Bool.and_eq_true]
    exact ⟨ha.1, wfAll_append a b ha.2 hb⟩

def LinkOK (s : PStmt) (t : TS) : Prop :=
  annOK t = true ∧ Exit.wf (skelOf t) = true ∧ (blockishP s = true → Exit.blockish (skelOf t) = true)

theorem LinkOK.leaf {s : PStmt} {t : TS} (ha : annOK t = true) (hw : Exit.wf (skelOf t) = true) (hb : blockishP s = false) :
    LinkOK s t := ⟨ha, hw, fun h => by rw [hb] at h; cases h⟩

theorem LinkOK.other {s : PStmt} {t : TS} (ht : skelOf t = .other ∧ annOK t = true) (hb : blockishP s = false) : LinkOK s t :=
  LinkOK.leaf ht.2 (by rw [ht.1]; rfl) hb

theorem tcDecl_link (env : Env) (n : List CP) (ty : Ty) (c : Bool) (i : TE) :
    Post (tcDecl env n ty c i) (fun r => skelOf r.2 = .other ∧ annOK r.2 = true) :=
  (tcDecl_shape env n ty c i).mono fun _ _ ⟨_, h⟩ => h ▸ ⟨rfl, rfl⟩

mutual
theorem tcStmt_link_post : ∀ (s : PStmt) (env : Env), shapeP s = true → Post (tcStmt env s) (fun r => LinkOK s r.2)
  | .expr e, env, _ => by
    unfold tcStmt
    exact Post.skip fun te _ => .pure (LinkOK.leaf rfl (skelOfE_wf te) rfl)
  | .decl n ty c init, env, _ => by
    unfold tcStmt
    exact Post.skip fun _ _ => Post.skip fun _ _ => (tcDecl_link _ _ _ _ _).mono fun _ _ h => LinkOK.other h rfl
  | .vla n el c len, env, _ => by
    unfold tcStmt
    exact Post.skip fun _ _ => Post.skip fun _ _ => Post.skip fun _ _ =>
      (tcDecl_link _ _ _ _ _).mono fun _ _ h => LinkOK.other h rfl
  | .assign l r, env, _ => by
    unfold tcStmt
    exact (tcAssign_shape env l r).mono fun _ _ ⟨_, _, h⟩ => LinkOK.other (h ▸ ⟨rfl, rfl⟩) rfl
  | .incassign l r op, env, _ => by
    unfold tcStmt
    split
    · exact .throw trivial
    · refine Post.skip fun pr _ => ?_
      obtain ⟨e1, eq⟩ := pr
      dsimp only
      split <;> exact Post.skip fun _ _ => Post.skip fun _ _ => .pure (LinkOK.other ⟨rfl, rfl⟩ rfl)
  | .ret e, env, _ => by
    unfold tcStmt
    split
    · exact .throw trivial
    · split
      · split
        · exact .throw trivial
        · exact Post.skip fun _ _ => Post.skip fun _ _ => .pure (LinkOK.leaf rfl rfl rfl)
      · split
        · exact .throw trivial
        · exact .pure (LinkOK.leaf rfl rfl rfl)
  | .brk, env, _ | .cont, env, _ => by unfold tcStmt; exact .pure (LinkOK.leaf rfl rfl rfl)
  | .block ss pre, env, hs => by
    simp only [shapeP] at hs
    unfold tcStmt
    refine (tcBlockGo_link_post ss env.child [] _ _ hs rfl rfl (fun _ => rfl)).bind fun b _ hb => .pure ?_
    obtain ⟨ts, m, rfl, h1, h2⟩ := hb
    exact ⟨h1, by simpa only [skelOf, Exit.wf] using h2, fun _ => rfl⟩
  | .ifb c a b, env, hs | .loop c a b, env, hs => by
    simp only [shapeP, Bool.and_eq_true] at hs
    unfold tcStmt
    refine (tcStmt_link_post a env hs.1.2).bind fun ta _ ha => Post.skip fun _ _ => Post.skip fun _ _ =>
      (tcStmt_link_post b env hs.2).bind fun tb _ hb => .pure ⟨?_, ?_, fun _ => rfl⟩
    · simp only [annOK, ha.1, hb.1, Bool.and_self]
    · simp only [skelOf, Exit.wf, ha.2.1, hb.2.1, ha.2.2 hs.1.1.1, hb.2.2 hs.1.1.2, Bool.and_self]
  | .tryb a k b, env, hs => by
    simp only [shapeP, Bool.and_eq_true] at hs
    unfold tcStmt
    refine (tcStmt_link_post a env hs.1.2).bind fun ta _ ha => (tcStmt_link_post b env hs.2).bind fun tb _ hb =>
      .pure ⟨?_, ?_, fun _ => rfl⟩
    · simp only [annOK, ha.1, hb.1, Bool.and_self]
    · simp only [skelOf, Exit.wf, ha.2.1, hb.2.1, ha.2.2 hs.1.1.1, hb.2.2 hs.1.1.2, Bool.and_self]
  | .preempt a, env, hs => by
    simp only [shapeP, Bool.and_eq_true] at hs
    unfold tcStmt
    refine (tcStmt_link_post a env hs.2).bind fun ta _ ha => .pure ⟨?_, ?_, fun _ => rfl⟩
    · simpa only [annOK] using ha.1
    · simp only [skelOf, Exit.wf, ha.2.1, ha.2.2 hs.1, Bool.and_self]

/-- the loop invariant: the analysis over the kept statements and any continuation `R` is the analysis over `R` from the
current mode -/
theorem tcBlockGo_link_post : ∀ (ss : List PStmt) (env : Env) (acc : List TS) (mode : Nat) (fc : Bool), shapePs ss = true →
    annOKs acc.reverse = true → Exit.wfAll (skelOfs acc.reverse) = true →
    (∀ R, Exit.blockGo (skelOfs acc.reverse ++ R) Exit.NONE false = Exit.blockGo R mode fc) →
    Post (tcBlockGo env ss acc mode fc)
      (fun t => ∃ ts m, t = .block ts m ∧ annOK (.block ts m) = true ∧ Exit.wfAll (skelOfs ts) = true)
  | [], env, acc, mode, fc, _, ha, hw, hJ => by
    unfold tcBlockGo
    refine .pure ⟨_, _, rfl, ?_, hw⟩
    have := hJ []
    rw [List.append_nil] at this
    simp only [annOK, ha, this, Exit.blockGo, beq_self_eq_true, Bool.and_self]
  | s :: rest, env, acc, mode, fc, hs, ha, hw, hJ => by
    simp only [shapePs, Bool.and_eq_true] at hs
    unfold tcBlockGo
    split
    · split
      · exact .throw trivial
      · refine .pure ⟨_, _, rfl, ?_, hw⟩
        have := hJ []
        rw [List.append_nil] at this
        simp only [annOK, ha, this, Exit.blockGo, beq_self_eq_true, Bool.and_self]
    · rename_i hgo
      refine (tcStmt_link_post s env hs.1).bind fun pr _ hl => ?_
      obtain ⟨env1, t1⟩ := pr
      obtain ⟨l1, l2, _⟩ := hl
      have hgo' : emHas mode "NONE" = true ∧ fc = false := by
        cases hn : emHas mode "NONE" <;> cases fc <;> first | exact ⟨rfl, rfl⟩ | (rw [hn] at hgo; exact absurd rfl hgo)
      obtain ⟨hn, rfl⟩ := hgo'
      dsimp only
      refine tcBlockGo_link_post rest env1 (t1 :: acc) _ _ hs.2 ?_ ?_ ?_
      · rw [List.reverse_cons]
        exact annOKs_append _ _ ha (by simp only [annOKs, l1, Bool.and_self])
      · rw [List.reverse_cons, skelOfs_append]
        exact wfAll_append _ _ hw (by simp only [skelOfs, Exit.wfAll, l2, Bool.and_self])
      · intro R
        rw [List.reverse_cons, skelOfs_append, List.append_assoc, hJ]
        exact step_link t1 l1 R mode hn
end

theorem tcStmt_link : ∀ (s : PStmt) (env env' : Env) (t : TS), shapeP s = true → tcStmt env s = .ok (env', t) → LinkOK s t :=
  fun s env _ _ hs h => (tcStmt_link_post s env hs).ok h

theorem tcBlockGo_link : ∀ (ss : List PStmt) (env : Env) (acc : List TS) (mode : Nat) (fc : Bool) (t : TS), shapePs ss = true →
    annOKs acc.reverse = true → Exit.wfAll (skelOfs acc.reverse) = true →
    (∀ R, Exit.blockGo (skelOfs acc.reverse ++ R) Exit.NONE false = Exit.blockGo R mode fc) →
    tcBlockGo env ss acc mode fc = .ok t →
    ∃ ts m, t = .block ts m ∧ annOK (.block ts m) = true ∧ Exit.wfAll (skelOfs ts) = true :=
  fun ss env acc mode fc _ hs ha hw hJ h => (tcBlockGo_link_post ss env acc mode fc hs ha hw hJ).ok h

theorem no_normal_after_ret : ∀ ss : List Skel, ¬ Exits (.block (ss ++ [.ret])) .normal
  | [], h => by
    cases h with
    | blockStop _ hne => exact hne rfl
    | blockNext h1 _ => cases h1
  | s :: rest, h => by
    cases h with
    | blockStop _ hne => exact hne rfl
    | blockNext _ h2 => exact no_normal_after_ret rest h2

theorem bodyStmts_shape {s : PStmt} (h : shapeP s = true) : shapePs (bodyStmts s) = true := by
  rcases bodyStmts_cases s with ⟨ss, pre, rfl, hb⟩ | hb <;> rw [hb]
  · simpa only [shapeP] using h
  · simp only [shapePs, h, Bool.and_self]

theorem tcFunc_link_post (env : Env) {f : PFunc} (hs : shapeP f.body = true) :
    Post (tcFunc env f) (fun tf => ¬ Exits (skelOf tf.body) .normal) := by
  unfold tcFunc
  refine Post.skip fun env1 _ => ?_
  refine Sat.bind (x := tcBlock env1 (bodyStmts f.body))
    (tcBlockGo_link_post _ _ [] _ _ (bodyStmts_shape hs) rfl rfl (fun _ => rfl)) fun body _ hb => ?_
  obtain ⟨ts, m, rfl, hann, hwf⟩ := hb
  have hm : m = Exit.modes (skelOf (.block ts m)) := modes_eq _ hann
  refine (finishBody_post (Q := fun b => ¬ Exits (skelOf b) .normal) (fun hnn => ?_) (fun _ _ => ?_)).bind
    fun body' _ h => .pure h
  · refine Exit.no_none_no_fallthrough _ rfl (by simpa only [skelOf, Exit.wf] using hwf) ?_
    rw [← hm, ← (emHas_eq_has m).1]
    exact hnn
  · simp only [skelOf, skelOfs_append, skelOfs]
    exact no_normal_after_ret _

/-- **an accepted function cannot complete its body normally**: the modes of the body lack `NONE`, or a `return;`
was appended -/
theorem tcFunc_link {env : Env} {f : PFunc} {tf : TFunc} (hs : shapeP f.body = true) (h : tcFunc env f = .ok tf) :
    ¬ Exits (skelOf tf.body) .normal :=
  (tcFunc_link_post env hs).ok h

theorem shapePs_of_all : ∀ (l : List PStmt), (∀ a ∈ l, shapeP a = true) → shapePs l = true
  | [], _ => rfl
  | a :: l, h => by
    simp only [shapePs, Bool.and_eq_true]
    exact ⟨h a List.mem_cons_self, shapePs_of_all l (fun b hb => h b (List.mem_cons_of_mem _ hb))⟩

theorem shapeP_of_ok {c : Nat} {s : PStmt} (h : OkS c s) : shapeP s = true := by
  induction h with
  | expr _ | decl _ _ | vla _ _ | assign _ _ | incassign _ _ _ | ret _ | brk _ | cont _ => rfl
  | block _ ih => simp only [shapeP]; exact shapePs_of_all _ ih
  | ifb _ _ _ h1 h2 ih1 ih2 => simp [shapeP, h1, h2, ih1, ih2]
  | loop _ _ _ h1 h2 ih1 ih2 => simp [shapeP, h1, h2, ih1, ih2]
  | tryb _ _ _ h1 h2 ih1 ih2 => simp [shapeP, h1, h2, ih1, ih2]
  | preempt _ _ h1 ih => simp [shapeP, h1, ih]

theorem tcProgram_link {lint : Bool} {p : PProgram} {tp : TProgram} (hs : ∀ f ∈ p.funcs, shapeP f.body = true)
    (h : tcProgram lint p = .ok tp) : ∀ tf ∈ tp.funcs, ¬ Exits (skelOf tf.body) .normal := by
  refine Post.ok (P := fun tp => ∀ tf ∈ tp.funcs, ¬ Exits (skelOf tf.body) .normal) ?_ h
  unfold tcProgram
  refine Post.skip fun funcs _ => Post.skip fun env _ => ?_
  refine Sat.bind (Sat.mapM p.funcs fun g hg => tcFunc_link_post env (hs g hg)) fun fs _ hall => .pure fun tf htf => ?_
  obtain ⟨_, _, h⟩ := hall.of_mem tf htf
  exact h

/-- **C16, front end, for every source text**: in every accepted program no function body can complete normally -/
theorem accepted_never_falls_off (lint : Bool) (src : List Line) (p : PProgram) (tp : TProgram)
    (hparse : parse src = .ok p) (htc : tcProgram lint p = .ok tp) : ∀ tf ∈ tp.funcs, ¬ Exits (skelOf tf.body) .normal :=
  tcProgram_link (fun f hf => shapeP_of_ok ((parse_sound src p hparse).funcs f hf)) htc

end HidVerif.Hid.TC
